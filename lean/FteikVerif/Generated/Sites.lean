import FteikVerif.Proofs.IndexLemmas
/-! GENERATED by harness/sites.py from /repo's working tree — do not edit.
Index-safety obligations (C12): one per integer subscript and call context. -/
set_option linter.unusedVariables false
namespace Fteik.Generated.Sites

theorem fteik2d_sweep_L99c9_ctx0 (i i1 j j1 nx nz sgntx sgntz sgnvx sgnvz : Int) (_ : 2 ≤ nz) (_ : 2 ≤ nx) (_ : 1 ≤ j) (_ : j < nx) (_ : 1 ≤ i) (_ : i < nz) (_ : sgnvz = 1) (_ : sgnvx = 1) (_ : sgntz = 1) (_ : sgntx = 1) (_ : i1 = (i - sgnvz)) (_ : j1 = (j - sgnvx)) :
    (0 ≤ (i - sgntz) ∧ (i - sgntz) < nz) ∧ (0 ≤ j ∧ j < nx) := ⟨Idx.up_upwind, Idx.up⟩

theorem fteik2d_sweep_L99c9_ctx1 (i i1 j j1 nx nz sgntx sgntz sgnvx sgnvz : Int) (_ : 2 ≤ nz) (_ : 2 ≤ nx) (_ : 1 ≤ j) (_ : j < nx) (_ : i ≤ (nz - 2)) (_ : (-1) < i) (_ : sgnvz = 0) (_ : sgnvx = 1) (_ : sgntz = -1) (_ : sgntx = 1) (_ : i1 = (i - sgnvz)) (_ : j1 = (j - sgnvx)) :
    (0 ≤ (i - sgntz) ∧ (i - sgntz) < nz) ∧ (0 ≤ j ∧ j < nx) := ⟨Idx.down_upwind, Idx.up⟩

theorem fteik2d_sweep_L99c9_ctx2 (i i1 j j1 nx nz sgntx sgntz sgnvx sgnvz : Int) (_ : 2 ≤ nz) (_ : 2 ≤ nx) (_ : j ≤ (nx - 2)) (_ : (-1) < j) (_ : 1 ≤ i) (_ : i < nz) (_ : sgnvz = 1) (_ : sgnvx = 0) (_ : sgntz = 1) (_ : sgntx = -1) (_ : i1 = (i - sgnvz)) (_ : j1 = (j - sgnvx)) :
    (0 ≤ (i - sgntz) ∧ (i - sgntz) < nz) ∧ (0 ≤ j ∧ j < nx) := ⟨Idx.up_upwind, Idx.down⟩

theorem fteik2d_sweep_L99c9_ctx3 (i i1 j j1 nx nz sgntx sgntz sgnvx sgnvz : Int) (_ : 2 ≤ nz) (_ : 2 ≤ nx) (_ : j ≤ (nx - 2)) (_ : (-1) < j) (_ : i ≤ (nz - 2)) (_ : (-1) < i) (_ : sgnvz = 0) (_ : sgnvx = 0) (_ : sgntz = -1) (_ : sgntx = -1) (_ : i1 = (i - sgnvz)) (_ : j1 = (j - sgnvx)) :
    (0 ≤ (i - sgntz) ∧ (i - sgntz) < nz) ∧ (0 ≤ j ∧ j < nx) := ⟨Idx.down_upwind, Idx.down⟩

theorem fteik2d_sweep_L100c9_ctx0 (i i1 j j1 nx nz sgntx sgntz sgnvx sgnvz : Int) (_ : 2 ≤ nz) (_ : 2 ≤ nx) (_ : 1 ≤ j) (_ : j < nx) (_ : 1 ≤ i) (_ : i < nz) (_ : sgnvz = 1) (_ : sgnvx = 1) (_ : sgntz = 1) (_ : sgntx = 1) (_ : i1 = (i - sgnvz)) (_ : j1 = (j - sgnvx)) :
    (0 ≤ i ∧ i < nz) ∧ (0 ≤ (j - sgntx) ∧ (j - sgntx) < nx) := ⟨Idx.up, Idx.up_upwind⟩

theorem fteik2d_sweep_L100c9_ctx1 (i i1 j j1 nx nz sgntx sgntz sgnvx sgnvz : Int) (_ : 2 ≤ nz) (_ : 2 ≤ nx) (_ : 1 ≤ j) (_ : j < nx) (_ : i ≤ (nz - 2)) (_ : (-1) < i) (_ : sgnvz = 0) (_ : sgnvx = 1) (_ : sgntz = -1) (_ : sgntx = 1) (_ : i1 = (i - sgnvz)) (_ : j1 = (j - sgnvx)) :
    (0 ≤ i ∧ i < nz) ∧ (0 ≤ (j - sgntx) ∧ (j - sgntx) < nx) := ⟨Idx.down, Idx.up_upwind⟩

theorem fteik2d_sweep_L100c9_ctx2 (i i1 j j1 nx nz sgntx sgntz sgnvx sgnvz : Int) (_ : 2 ≤ nz) (_ : 2 ≤ nx) (_ : j ≤ (nx - 2)) (_ : (-1) < j) (_ : 1 ≤ i) (_ : i < nz) (_ : sgnvz = 1) (_ : sgnvx = 0) (_ : sgntz = 1) (_ : sgntx = -1) (_ : i1 = (i - sgnvz)) (_ : j1 = (j - sgnvx)) :
    (0 ≤ i ∧ i < nz) ∧ (0 ≤ (j - sgntx) ∧ (j - sgntx) < nx) := ⟨Idx.up, Idx.down_upwind⟩

theorem fteik2d_sweep_L100c9_ctx3 (i i1 j j1 nx nz sgntx sgntz sgnvx sgnvz : Int) (_ : 2 ≤ nz) (_ : 2 ≤ nx) (_ : j ≤ (nx - 2)) (_ : (-1) < j) (_ : i ≤ (nz - 2)) (_ : (-1) < i) (_ : sgnvz = 0) (_ : sgnvx = 0) (_ : sgntz = -1) (_ : sgntx = -1) (_ : i1 = (i - sgnvz)) (_ : j1 = (j - sgnvx)) :
    (0 ≤ i ∧ i < nz) ∧ (0 ≤ (j - sgntx) ∧ (j - sgntx) < nx) := ⟨Idx.down, Idx.down_upwind⟩

theorem fteik2d_sweep_L101c10_ctx0 (i i1 j j1 nx nz sgntx sgntz sgnvx sgnvz : Int) (_ : 2 ≤ nz) (_ : 2 ≤ nx) (_ : 1 ≤ j) (_ : j < nx) (_ : 1 ≤ i) (_ : i < nz) (_ : sgnvz = 1) (_ : sgnvx = 1) (_ : sgntz = 1) (_ : sgntx = 1) (_ : i1 = (i - sgnvz)) (_ : j1 = (j - sgnvx)) :
    (0 ≤ (i - sgntz) ∧ (i - sgntz) < nz) ∧ (0 ≤ (j - sgntx) ∧ (j - sgntx) < nx) := ⟨Idx.up_upwind, Idx.up_upwind⟩

theorem fteik2d_sweep_L101c10_ctx1 (i i1 j j1 nx nz sgntx sgntz sgnvx sgnvz : Int) (_ : 2 ≤ nz) (_ : 2 ≤ nx) (_ : 1 ≤ j) (_ : j < nx) (_ : i ≤ (nz - 2)) (_ : (-1) < i) (_ : sgnvz = 0) (_ : sgnvx = 1) (_ : sgntz = -1) (_ : sgntx = 1) (_ : i1 = (i - sgnvz)) (_ : j1 = (j - sgnvx)) :
    (0 ≤ (i - sgntz) ∧ (i - sgntz) < nz) ∧ (0 ≤ (j - sgntx) ∧ (j - sgntx) < nx) := ⟨Idx.down_upwind, Idx.up_upwind⟩

theorem fteik2d_sweep_L101c10_ctx2 (i i1 j j1 nx nz sgntx sgntz sgnvx sgnvz : Int) (_ : 2 ≤ nz) (_ : 2 ≤ nx) (_ : j ≤ (nx - 2)) (_ : (-1) < j) (_ : 1 ≤ i) (_ : i < nz) (_ : sgnvz = 1) (_ : sgnvx = 0) (_ : sgntz = 1) (_ : sgntx = -1) (_ : i1 = (i - sgnvz)) (_ : j1 = (j - sgnvx)) :
    (0 ≤ (i - sgntz) ∧ (i - sgntz) < nz) ∧ (0 ≤ (j - sgntx) ∧ (j - sgntx) < nx) := ⟨Idx.up_upwind, Idx.down_upwind⟩

theorem fteik2d_sweep_L101c10_ctx3 (i i1 j j1 nx nz sgntx sgntz sgnvx sgnvz : Int) (_ : 2 ≤ nz) (_ : 2 ≤ nx) (_ : j ≤ (nx - 2)) (_ : (-1) < j) (_ : i ≤ (nz - 2)) (_ : (-1) < i) (_ : sgnvz = 0) (_ : sgnvx = 0) (_ : sgntz = -1) (_ : sgntx = -1) (_ : i1 = (i - sgnvz)) (_ : j1 = (j - sgnvx)) :
    (0 ≤ (i - sgntz) ∧ (i - sgntz) < nz) ∧ (0 ≤ (j - sgntx) ∧ (j - sgntx) < nx) := ⟨Idx.down_upwind, Idx.down_upwind⟩

theorem fteik2d_sweep_L105c15_ctx0 (i i1 j j1 nx nz sgntx sgntz sgnvx sgnvz : Int) (_ : 2 ≤ nz) (_ : 2 ≤ nx) (_ : 1 ≤ j) (_ : j < nx) (_ : 1 ≤ i) (_ : i < nz) (_ : sgnvz = 1) (_ : sgnvx = 1) (_ : sgntz = 1) (_ : sgntx = 1) (_ : i1 = (i - sgnvz)) (_ : j1 = (j - sgnvx)) :
    (0 ≤ i1 ∧ i1 < (nz - 1)) ∧ (0 ≤ (max (j - 1) 0) ∧ (max (j - 1) 0) < (nx - 1)) := ⟨Idx.up_cell, Idx.up_cellBelow⟩

theorem fteik2d_sweep_L105c15_ctx1 (i i1 j j1 nx nz sgntx sgntz sgnvx sgnvz : Int) (_ : 2 ≤ nz) (_ : 2 ≤ nx) (_ : 1 ≤ j) (_ : j < nx) (_ : i ≤ (nz - 2)) (_ : (-1) < i) (_ : sgnvz = 0) (_ : sgnvx = 1) (_ : sgntz = -1) (_ : sgntx = 1) (_ : i1 = (i - sgnvz)) (_ : j1 = (j - sgnvx)) :
    (0 ≤ i1 ∧ i1 < (nz - 1)) ∧ (0 ≤ (max (j - 1) 0) ∧ (max (j - 1) 0) < (nx - 1)) := ⟨Idx.down_cell, Idx.up_cellBelow⟩

theorem fteik2d_sweep_L105c15_ctx2 (i i1 j j1 nx nz sgntx sgntz sgnvx sgnvz : Int) (_ : 2 ≤ nz) (_ : 2 ≤ nx) (_ : j ≤ (nx - 2)) (_ : (-1) < j) (_ : 1 ≤ i) (_ : i < nz) (_ : sgnvz = 1) (_ : sgnvx = 0) (_ : sgntz = 1) (_ : sgntx = -1) (_ : i1 = (i - sgnvz)) (_ : j1 = (j - sgnvx)) :
    (0 ≤ i1 ∧ i1 < (nz - 1)) ∧ (0 ≤ (max (j - 1) 0) ∧ (max (j - 1) 0) < (nx - 1)) := ⟨Idx.up_cell, Idx.down_cellBelow⟩

theorem fteik2d_sweep_L105c15_ctx3 (i i1 j j1 nx nz sgntx sgntz sgnvx sgnvz : Int) (_ : 2 ≤ nz) (_ : 2 ≤ nx) (_ : j ≤ (nx - 2)) (_ : (-1) < j) (_ : i ≤ (nz - 2)) (_ : (-1) < i) (_ : sgnvz = 0) (_ : sgnvx = 0) (_ : sgntz = -1) (_ : sgntx = -1) (_ : i1 = (i - sgnvz)) (_ : j1 = (j - sgnvx)) :
    (0 ≤ i1 ∧ i1 < (nz - 1)) ∧ (0 ≤ (max (j - 1) 0) ∧ (max (j - 1) 0) < (nx - 1)) := ⟨Idx.down_cell, Idx.down_cellBelow⟩

theorem fteik2d_sweep_L105c40_ctx0 (i i1 j j1 nx nz sgntx sgntz sgnvx sgnvz : Int) (_ : 2 ≤ nz) (_ : 2 ≤ nx) (_ : 1 ≤ j) (_ : j < nx) (_ : 1 ≤ i) (_ : i < nz) (_ : sgnvz = 1) (_ : sgnvx = 1) (_ : sgntz = 1) (_ : sgntx = 1) (_ : i1 = (i - sgnvz)) (_ : j1 = (j - sgnvx)) :
    (0 ≤ i1 ∧ i1 < (nz - 1)) ∧ (0 ≤ (min j (nx - 2)) ∧ (min j (nx - 2)) < (nx - 1)) := ⟨Idx.up_cell, Idx.up_cellAbove⟩

theorem fteik2d_sweep_L105c40_ctx1 (i i1 j j1 nx nz sgntx sgntz sgnvx sgnvz : Int) (_ : 2 ≤ nz) (_ : 2 ≤ nx) (_ : 1 ≤ j) (_ : j < nx) (_ : i ≤ (nz - 2)) (_ : (-1) < i) (_ : sgnvz = 0) (_ : sgnvx = 1) (_ : sgntz = -1) (_ : sgntx = 1) (_ : i1 = (i - sgnvz)) (_ : j1 = (j - sgnvx)) :
    (0 ≤ i1 ∧ i1 < (nz - 1)) ∧ (0 ≤ (min j (nx - 2)) ∧ (min j (nx - 2)) < (nx - 1)) := ⟨Idx.down_cell, Idx.up_cellAbove⟩

theorem fteik2d_sweep_L105c40_ctx2 (i i1 j j1 nx nz sgntx sgntz sgnvx sgnvz : Int) (_ : 2 ≤ nz) (_ : 2 ≤ nx) (_ : j ≤ (nx - 2)) (_ : (-1) < j) (_ : 1 ≤ i) (_ : i < nz) (_ : sgnvz = 1) (_ : sgnvx = 0) (_ : sgntz = 1) (_ : sgntx = -1) (_ : i1 = (i - sgnvz)) (_ : j1 = (j - sgnvx)) :
    (0 ≤ i1 ∧ i1 < (nz - 1)) ∧ (0 ≤ (min j (nx - 2)) ∧ (min j (nx - 2)) < (nx - 1)) := ⟨Idx.up_cell, Idx.down_cellAbove⟩

theorem fteik2d_sweep_L105c40_ctx3 (i i1 j j1 nx nz sgntx sgntz sgnvx sgnvz : Int) (_ : 2 ≤ nz) (_ : 2 ≤ nx) (_ : j ≤ (nx - 2)) (_ : (-1) < j) (_ : i ≤ (nz - 2)) (_ : (-1) < i) (_ : sgnvz = 0) (_ : sgnvx = 0) (_ : sgntz = -1) (_ : sgntx = -1) (_ : i1 = (i - sgnvz)) (_ : j1 = (j - sgnvx)) :
    (0 ≤ i1 ∧ i1 < (nz - 1)) ∧ (0 ≤ (min j (nx - 2)) ∧ (min j (nx - 2)) < (nx - 1)) := ⟨Idx.down_cell, Idx.down_cellAbove⟩

theorem fteik2d_sweep_L109c15_ctx0 (dz i i1 j j1 nx nz sgntx sgntz sgnvx sgnvz t1d1 tv vref : Int) (_ : 2 ≤ nz) (_ : 2 ≤ nx) (_ : 1 ≤ j) (_ : j < nx) (_ : 1 ≤ i) (_ : i < nz) (_ : sgnvz = 1) (_ : sgnvx = 1) (_ : sgntz = 1) (_ : sgntx = 1) (_ : i1 = (i - sgnvz)) (_ : j1 = (j - sgnvx)) (_ : t1d1 = (tv + (dz * vref))) :
    (0 ≤ (max (i - 1) 0) ∧ (max (i - 1) 0) < (nz - 1)) ∧ (0 ≤ j1 ∧ j1 < (nx - 1)) := ⟨Idx.up_cellBelow, Idx.up_cell⟩

theorem fteik2d_sweep_L109c15_ctx1 (dz i i1 j j1 nx nz sgntx sgntz sgnvx sgnvz t1d1 tv vref : Int) (_ : 2 ≤ nz) (_ : 2 ≤ nx) (_ : 1 ≤ j) (_ : j < nx) (_ : i ≤ (nz - 2)) (_ : (-1) < i) (_ : sgnvz = 0) (_ : sgnvx = 1) (_ : sgntz = -1) (_ : sgntx = 1) (_ : i1 = (i - sgnvz)) (_ : j1 = (j - sgnvx)) (_ : t1d1 = (tv + (dz * vref))) :
    (0 ≤ (max (i - 1) 0) ∧ (max (i - 1) 0) < (nz - 1)) ∧ (0 ≤ j1 ∧ j1 < (nx - 1)) := ⟨Idx.down_cellBelow, Idx.up_cell⟩

theorem fteik2d_sweep_L109c15_ctx2 (dz i i1 j j1 nx nz sgntx sgntz sgnvx sgnvz t1d1 tv vref : Int) (_ : 2 ≤ nz) (_ : 2 ≤ nx) (_ : j ≤ (nx - 2)) (_ : (-1) < j) (_ : 1 ≤ i) (_ : i < nz) (_ : sgnvz = 1) (_ : sgnvx = 0) (_ : sgntz = 1) (_ : sgntx = -1) (_ : i1 = (i - sgnvz)) (_ : j1 = (j - sgnvx)) (_ : t1d1 = (tv + (dz * vref))) :
    (0 ≤ (max (i - 1) 0) ∧ (max (i - 1) 0) < (nz - 1)) ∧ (0 ≤ j1 ∧ j1 < (nx - 1)) := ⟨Idx.up_cellBelow, Idx.down_cell⟩

theorem fteik2d_sweep_L109c15_ctx3 (dz i i1 j j1 nx nz sgntx sgntz sgnvx sgnvz t1d1 tv vref : Int) (_ : 2 ≤ nz) (_ : 2 ≤ nx) (_ : j ≤ (nx - 2)) (_ : (-1) < j) (_ : i ≤ (nz - 2)) (_ : (-1) < i) (_ : sgnvz = 0) (_ : sgnvx = 0) (_ : sgntz = -1) (_ : sgntx = -1) (_ : i1 = (i - sgnvz)) (_ : j1 = (j - sgnvx)) (_ : t1d1 = (tv + (dz * vref))) :
    (0 ≤ (max (i - 1) 0) ∧ (max (i - 1) 0) < (nz - 1)) ∧ (0 ≤ j1 ∧ j1 < (nx - 1)) := ⟨Idx.down_cellBelow, Idx.down_cell⟩

theorem fteik2d_sweep_L109c40_ctx0 (dz i i1 j j1 nx nz sgntx sgntz sgnvx sgnvz t1d1 tv vref : Int) (_ : 2 ≤ nz) (_ : 2 ≤ nx) (_ : 1 ≤ j) (_ : j < nx) (_ : 1 ≤ i) (_ : i < nz) (_ : sgnvz = 1) (_ : sgnvx = 1) (_ : sgntz = 1) (_ : sgntx = 1) (_ : i1 = (i - sgnvz)) (_ : j1 = (j - sgnvx)) (_ : t1d1 = (tv + (dz * vref))) :
    (0 ≤ (min i (nz - 2)) ∧ (min i (nz - 2)) < (nz - 1)) ∧ (0 ≤ j1 ∧ j1 < (nx - 1)) := ⟨Idx.up_cellAbove, Idx.up_cell⟩

theorem fteik2d_sweep_L109c40_ctx1 (dz i i1 j j1 nx nz sgntx sgntz sgnvx sgnvz t1d1 tv vref : Int) (_ : 2 ≤ nz) (_ : 2 ≤ nx) (_ : 1 ≤ j) (_ : j < nx) (_ : i ≤ (nz - 2)) (_ : (-1) < i) (_ : sgnvz = 0) (_ : sgnvx = 1) (_ : sgntz = -1) (_ : sgntx = 1) (_ : i1 = (i - sgnvz)) (_ : j1 = (j - sgnvx)) (_ : t1d1 = (tv + (dz * vref))) :
    (0 ≤ (min i (nz - 2)) ∧ (min i (nz - 2)) < (nz - 1)) ∧ (0 ≤ j1 ∧ j1 < (nx - 1)) := ⟨Idx.down_cellAbove, Idx.up_cell⟩

theorem fteik2d_sweep_L109c40_ctx2 (dz i i1 j j1 nx nz sgntx sgntz sgnvx sgnvz t1d1 tv vref : Int) (_ : 2 ≤ nz) (_ : 2 ≤ nx) (_ : j ≤ (nx - 2)) (_ : (-1) < j) (_ : 1 ≤ i) (_ : i < nz) (_ : sgnvz = 1) (_ : sgnvx = 0) (_ : sgntz = 1) (_ : sgntx = -1) (_ : i1 = (i - sgnvz)) (_ : j1 = (j - sgnvx)) (_ : t1d1 = (tv + (dz * vref))) :
    (0 ≤ (min i (nz - 2)) ∧ (min i (nz - 2)) < (nz - 1)) ∧ (0 ≤ j1 ∧ j1 < (nx - 1)) := ⟨Idx.up_cellAbove, Idx.down_cell⟩

theorem fteik2d_sweep_L109c40_ctx3 (dz i i1 j j1 nx nz sgntx sgntz sgnvx sgnvz t1d1 tv vref : Int) (_ : 2 ≤ nz) (_ : 2 ≤ nx) (_ : j ≤ (nx - 2)) (_ : (-1) < j) (_ : i ≤ (nz - 2)) (_ : (-1) < i) (_ : sgnvz = 0) (_ : sgnvx = 0) (_ : sgntz = -1) (_ : sgntx = -1) (_ : i1 = (i - sgnvz)) (_ : j1 = (j - sgnvx)) (_ : t1d1 = (tv + (dz * vref))) :
    (0 ≤ (min i (nz - 2)) ∧ (min i (nz - 2)) < (nz - 1)) ∧ (0 ≤ j1 ∧ j1 < (nx - 1)) := ⟨Idx.down_cellAbove, Idx.down_cell⟩

theorem fteik2d_sweep_L116c11_ctx0 (Big dx i i1 j j1 nx nz sgntx sgntz sgnvx sgnvz t1d t1d1 t1d2 t2d te vref : Int) (_ : 2 ≤ nz) (_ : 2 ≤ nx) (_ : 1 ≤ j) (_ : j < nx) (_ : 1 ≤ i) (_ : i < nz) (_ : sgnvz = 1) (_ : sgnvx = 1) (_ : sgntz = 1) (_ : sgntx = 1) (_ : i1 = (i - sgnvz)) (_ : j1 = (j - sgnvx)) (_ : t1d2 = (te + (dx * vref))) (_ : t1d = (min t1d1 t1d2)) (_ : t2d = Big) :
    (0 ≤ i1 ∧ i1 < (nz - 1)) ∧ (0 ≤ j1 ∧ j1 < (nx - 1)) := ⟨Idx.up_cell, Idx.up_cell⟩

theorem fteik2d_sweep_L116c11_ctx1 (Big dx i i1 j j1 nx nz sgntx sgntz sgnvx sgnvz t1d t1d1 t1d2 t2d te vref : Int) (_ : 2 ≤ nz) (_ : 2 ≤ nx) (_ : 1 ≤ j) (_ : j < nx) (_ : i ≤ (nz - 2)) (_ : (-1) < i) (_ : sgnvz = 0) (_ : sgnvx = 1) (_ : sgntz = -1) (_ : sgntx = 1) (_ : i1 = (i - sgnvz)) (_ : j1 = (j - sgnvx)) (_ : t1d2 = (te + (dx * vref))) (_ : t1d = (min t1d1 t1d2)) (_ : t2d = Big) :
    (0 ≤ i1 ∧ i1 < (nz - 1)) ∧ (0 ≤ j1 ∧ j1 < (nx - 1)) := ⟨Idx.down_cell, Idx.up_cell⟩

theorem fteik2d_sweep_L116c11_ctx2 (Big dx i i1 j j1 nx nz sgntx sgntz sgnvx sgnvz t1d t1d1 t1d2 t2d te vref : Int) (_ : 2 ≤ nz) (_ : 2 ≤ nx) (_ : j ≤ (nx - 2)) (_ : (-1) < j) (_ : 1 ≤ i) (_ : i < nz) (_ : sgnvz = 1) (_ : sgnvx = 0) (_ : sgntz = 1) (_ : sgntx = -1) (_ : i1 = (i - sgnvz)) (_ : j1 = (j - sgnvx)) (_ : t1d2 = (te + (dx * vref))) (_ : t1d = (min t1d1 t1d2)) (_ : t2d = Big) :
    (0 ≤ i1 ∧ i1 < (nz - 1)) ∧ (0 ≤ j1 ∧ j1 < (nx - 1)) := ⟨Idx.up_cell, Idx.down_cell⟩

theorem fteik2d_sweep_L116c11_ctx3 (Big dx i i1 j j1 nx nz sgntx sgntz sgnvx sgnvz t1d t1d1 t1d2 t2d te vref : Int) (_ : 2 ≤ nz) (_ : 2 ≤ nx) (_ : j ≤ (nx - 2)) (_ : (-1) < j) (_ : i ≤ (nz - 2)) (_ : (-1) < i) (_ : sgnvz = 0) (_ : sgnvx = 0) (_ : sgntz = -1) (_ : sgntx = -1) (_ : i1 = (i - sgnvz)) (_ : j1 = (j - sgnvx)) (_ : t1d2 = (te + (dx * vref))) (_ : t1d = (min t1d1 t1d2)) (_ : t2d = Big) :
    (0 ≤ i1 ∧ i1 < (nz - 1)) ∧ (0 ≤ j1 ∧ j1 < (nx - 1)) := ⟨Idx.down_cell, Idx.down_cell⟩

theorem fteik2d_sweep_L174c9_ctx0 (i i1 j j1 nx nz sgntx sgntz sgnvx sgnvz t1d t1d1 t1d2 : Int) (_ : 2 ≤ nz) (_ : 2 ≤ nx) (_ : 1 ≤ j) (_ : j < nx) (_ : 1 ≤ i) (_ : i < nz) (_ : sgnvz = 1) (_ : sgnvx = 1) (_ : sgntz = 1) (_ : sgntx = 1) (_ : i1 = (i - sgnvz)) (_ : j1 = (j - sgnvx)) (_ : t1d = (min t1d1 t1d2)) :
    (0 ≤ i ∧ i < nz) ∧ (0 ≤ j ∧ j < nx) := ⟨Idx.up, Idx.up⟩

theorem fteik2d_sweep_L174c9_ctx1 (i i1 j j1 nx nz sgntx sgntz sgnvx sgnvz t1d t1d1 t1d2 : Int) (_ : 2 ≤ nz) (_ : 2 ≤ nx) (_ : 1 ≤ j) (_ : j < nx) (_ : i ≤ (nz - 2)) (_ : (-1) < i) (_ : sgnvz = 0) (_ : sgnvx = 1) (_ : sgntz = -1) (_ : sgntx = 1) (_ : i1 = (i - sgnvz)) (_ : j1 = (j - sgnvx)) (_ : t1d = (min t1d1 t1d2)) :
    (0 ≤ i ∧ i < nz) ∧ (0 ≤ j ∧ j < nx) := ⟨Idx.down, Idx.up⟩

theorem fteik2d_sweep_L174c9_ctx2 (i i1 j j1 nx nz sgntx sgntz sgnvx sgnvz t1d t1d1 t1d2 : Int) (_ : 2 ≤ nz) (_ : 2 ≤ nx) (_ : j ≤ (nx - 2)) (_ : (-1) < j) (_ : 1 ≤ i) (_ : i < nz) (_ : sgnvz = 1) (_ : sgnvx = 0) (_ : sgntz = 1) (_ : sgntx = -1) (_ : i1 = (i - sgnvz)) (_ : j1 = (j - sgnvx)) (_ : t1d = (min t1d1 t1d2)) :
    (0 ≤ i ∧ i < nz) ∧ (0 ≤ j ∧ j < nx) := ⟨Idx.up, Idx.down⟩

theorem fteik2d_sweep_L174c9_ctx3 (i i1 j j1 nx nz sgntx sgntz sgnvx sgnvz t1d t1d1 t1d2 : Int) (_ : 2 ≤ nz) (_ : 2 ≤ nx) (_ : j ≤ (nx - 2)) (_ : (-1) < j) (_ : i ≤ (nz - 2)) (_ : (-1) < i) (_ : sgnvz = 0) (_ : sgnvx = 0) (_ : sgntz = -1) (_ : sgntx = -1) (_ : i1 = (i - sgnvz)) (_ : j1 = (j - sgnvx)) (_ : t1d = (min t1d1 t1d2)) :
    (0 ≤ i ∧ i < nz) ∧ (0 ≤ j ∧ j < nx) := ⟨Idx.down, Idx.down⟩

theorem fteik2d_sweep_L175c4_ctx0 (i i1 j j1 nx nz sgntx sgntz sgnvx sgnvz t1d t1d1 t1d2 : Int) (_ : 2 ≤ nz) (_ : 2 ≤ nx) (_ : 1 ≤ j) (_ : j < nx) (_ : 1 ≤ i) (_ : i < nz) (_ : sgnvz = 1) (_ : sgnvx = 1) (_ : sgntz = 1) (_ : sgntx = 1) (_ : i1 = (i - sgnvz)) (_ : j1 = (j - sgnvx)) (_ : t1d = (min t1d1 t1d2)) :
    (0 ≤ i ∧ i < nz) ∧ (0 ≤ j ∧ j < nx) := ⟨Idx.up, Idx.up⟩

theorem fteik2d_sweep_L175c4_ctx1 (i i1 j j1 nx nz sgntx sgntz sgnvx sgnvz t1d t1d1 t1d2 : Int) (_ : 2 ≤ nz) (_ : 2 ≤ nx) (_ : 1 ≤ j) (_ : j < nx) (_ : i ≤ (nz - 2)) (_ : (-1) < i) (_ : sgnvz = 0) (_ : sgnvx = 1) (_ : sgntz = -1) (_ : sgntx = 1) (_ : i1 = (i - sgnvz)) (_ : j1 = (j - sgnvx)) (_ : t1d = (min t1d1 t1d2)) :
    (0 ≤ i ∧ i < nz) ∧ (0 ≤ j ∧ j < nx) := ⟨Idx.down, Idx.up⟩

theorem fteik2d_sweep_L175c4_ctx2 (i i1 j j1 nx nz sgntx sgntz sgnvx sgnvz t1d t1d1 t1d2 : Int) (_ : 2 ≤ nz) (_ : 2 ≤ nx) (_ : j ≤ (nx - 2)) (_ : (-1) < j) (_ : 1 ≤ i) (_ : i < nz) (_ : sgnvz = 1) (_ : sgnvx = 0) (_ : sgntz = 1) (_ : sgntx = -1) (_ : i1 = (i - sgnvz)) (_ : j1 = (j - sgnvx)) (_ : t1d = (min t1d1 t1d2)) :
    (0 ≤ i ∧ i < nz) ∧ (0 ≤ j ∧ j < nx) := ⟨Idx.up, Idx.down⟩

theorem fteik2d_sweep_L175c4_ctx3 (i i1 j j1 nx nz sgntx sgntz sgnvx sgnvz t1d t1d1 t1d2 : Int) (_ : 2 ≤ nz) (_ : 2 ≤ nx) (_ : j ≤ (nx - 2)) (_ : (-1) < j) (_ : i ≤ (nz - 2)) (_ : (-1) < i) (_ : sgnvz = 0) (_ : sgnvx = 0) (_ : sgntz = -1) (_ : sgntx = -1) (_ : i1 = (i - sgnvz)) (_ : j1 = (j - sgnvx)) (_ : t1d = (min t1d1 t1d2)) :
    (0 ≤ i ∧ i < nz) ∧ (0 ≤ j ∧ j < nx) := ⟨Idx.down, Idx.down⟩

theorem fteik2d_sweep_L178c16_ctx0 (i i1 j j1 nx nz sgntx sgntz sgnvx sgnvz t1d t1d1 t1d2 : Int) (_ : 2 ≤ nz) (_ : 2 ≤ nx) (_ : 1 ≤ j) (_ : j < nx) (_ : 1 ≤ i) (_ : i < nz) (_ : sgnvz = 1) (_ : sgnvx = 1) (_ : sgntz = 1) (_ : sgntx = 1) (_ : i1 = (i - sgnvz)) (_ : j1 = (j - sgnvx)) (_ : t1d = (min t1d1 t1d2)) :
    (0 ≤ i ∧ i < nz) ∧ (0 ≤ j ∧ j < nx) := ⟨Idx.up, Idx.up⟩

theorem fteik2d_sweep_L178c16_ctx1 (i i1 j j1 nx nz sgntx sgntz sgnvx sgnvz t1d t1d1 t1d2 : Int) (_ : 2 ≤ nz) (_ : 2 ≤ nx) (_ : 1 ≤ j) (_ : j < nx) (_ : i ≤ (nz - 2)) (_ : (-1) < i) (_ : sgnvz = 0) (_ : sgnvx = 1) (_ : sgntz = -1) (_ : sgntx = 1) (_ : i1 = (i - sgnvz)) (_ : j1 = (j - sgnvx)) (_ : t1d = (min t1d1 t1d2)) :
    (0 ≤ i ∧ i < nz) ∧ (0 ≤ j ∧ j < nx) := ⟨Idx.down, Idx.up⟩

theorem fteik2d_sweep_L178c16_ctx2 (i i1 j j1 nx nz sgntx sgntz sgnvx sgnvz t1d t1d1 t1d2 : Int) (_ : 2 ≤ nz) (_ : 2 ≤ nx) (_ : j ≤ (nx - 2)) (_ : (-1) < j) (_ : 1 ≤ i) (_ : i < nz) (_ : sgnvz = 1) (_ : sgnvx = 0) (_ : sgntz = 1) (_ : sgntx = -1) (_ : i1 = (i - sgnvz)) (_ : j1 = (j - sgnvx)) (_ : t1d = (min t1d1 t1d2)) :
    (0 ≤ i ∧ i < nz) ∧ (0 ≤ j ∧ j < nx) := ⟨Idx.up, Idx.down⟩

theorem fteik2d_sweep_L178c16_ctx3 (i i1 j j1 nx nz sgntx sgntz sgnvx sgnvz t1d t1d1 t1d2 : Int) (_ : 2 ≤ nz) (_ : 2 ≤ nx) (_ : j ≤ (nx - 2)) (_ : (-1) < j) (_ : i ≤ (nz - 2)) (_ : (-1) < i) (_ : sgnvz = 0) (_ : sgnvx = 0) (_ : sgntz = -1) (_ : sgntx = -1) (_ : i1 = (i - sgnvz)) (_ : j1 = (j - sgnvx)) (_ : t1d = (min t1d1 t1d2)) :
    (0 ≤ i ∧ i < nz) ∧ (0 ≤ j ∧ j < nx) := ⟨Idx.down, Idx.down⟩

theorem fteik2d_sweep_L179c11_ctx0 (i i1 j j1 nx nz sgntx sgntz sgnvx sgnvz t1d t1d1 t1d2 : Int) (_ : 2 ≤ nz) (_ : 2 ≤ nx) (_ : 1 ≤ j) (_ : j < nx) (_ : 1 ≤ i) (_ : i < nz) (_ : sgnvz = 1) (_ : sgnvx = 1) (_ : sgntz = 1) (_ : sgntx = 1) (_ : i1 = (i - sgnvz)) (_ : j1 = (j - sgnvx)) (_ : t1d = (min t1d1 t1d2)) :
    (0 ≤ i ∧ i < nz) ∧ (0 ≤ j ∧ j < nx) := ⟨Idx.up, Idx.up⟩

theorem fteik2d_sweep_L179c11_ctx1 (i i1 j j1 nx nz sgntx sgntz sgnvx sgnvz t1d t1d1 t1d2 : Int) (_ : 2 ≤ nz) (_ : 2 ≤ nx) (_ : 1 ≤ j) (_ : j < nx) (_ : i ≤ (nz - 2)) (_ : (-1) < i) (_ : sgnvz = 0) (_ : sgnvx = 1) (_ : sgntz = -1) (_ : sgntx = 1) (_ : i1 = (i - sgnvz)) (_ : j1 = (j - sgnvx)) (_ : t1d = (min t1d1 t1d2)) :
    (0 ≤ i ∧ i < nz) ∧ (0 ≤ j ∧ j < nx) := ⟨Idx.down, Idx.up⟩

theorem fteik2d_sweep_L179c11_ctx2 (i i1 j j1 nx nz sgntx sgntz sgnvx sgnvz t1d t1d1 t1d2 : Int) (_ : 2 ≤ nz) (_ : 2 ≤ nx) (_ : j ≤ (nx - 2)) (_ : (-1) < j) (_ : 1 ≤ i) (_ : i < nz) (_ : sgnvz = 1) (_ : sgnvx = 0) (_ : sgntz = 1) (_ : sgntx = -1) (_ : i1 = (i - sgnvz)) (_ : j1 = (j - sgnvx)) (_ : t1d = (min t1d1 t1d2)) :
    (0 ≤ i ∧ i < nz) ∧ (0 ≤ j ∧ j < nx) := ⟨Idx.up, Idx.down⟩

theorem fteik2d_sweep_L179c11_ctx3 (i i1 j j1 nx nz sgntx sgntz sgnvx sgnvz t1d t1d1 t1d2 : Int) (_ : 2 ≤ nz) (_ : 2 ≤ nx) (_ : j ≤ (nx - 2)) (_ : (-1) < j) (_ : i ≤ (nz - 2)) (_ : (-1) < i) (_ : sgnvz = 0) (_ : sgnvx = 0) (_ : sgntz = -1) (_ : sgntx = -1) (_ : i1 = (i - sgnvz)) (_ : j1 = (j - sgnvx)) (_ : t1d = (min t1d1 t1d2)) :
    (0 ≤ i ∧ i < nz) ∧ (0 ≤ j ∧ j < nx) := ⟨Idx.down, Idx.down⟩

theorem fteik2d_sweep_L180c12_ctx0 (i i1 j j1 nx nz sgntx sgntz sgnvx sgnvz t1d t1d1 t1d2 : Int) (_ : 2 ≤ nz) (_ : 2 ≤ nx) (_ : 1 ≤ j) (_ : j < nx) (_ : 1 ≤ i) (_ : i < nz) (_ : sgnvz = 1) (_ : sgnvx = 1) (_ : sgntz = 1) (_ : sgntx = 1) (_ : i1 = (i - sgnvz)) (_ : j1 = (j - sgnvx)) (_ : t1d = (min t1d1 t1d2)) :
    (0 ≤ i ∧ i < nz) ∧ (0 ≤ j ∧ j < nx) ∧ (0 ≤ 0 ∧ 0 < 2) := ⟨Idx.up, Idx.up, by decide⟩

theorem fteik2d_sweep_L180c12_ctx1 (i i1 j j1 nx nz sgntx sgntz sgnvx sgnvz t1d t1d1 t1d2 : Int) (_ : 2 ≤ nz) (_ : 2 ≤ nx) (_ : 1 ≤ j) (_ : j < nx) (_ : i ≤ (nz - 2)) (_ : (-1) < i) (_ : sgnvz = 0) (_ : sgnvx = 1) (_ : sgntz = -1) (_ : sgntx = 1) (_ : i1 = (i - sgnvz)) (_ : j1 = (j - sgnvx)) (_ : t1d = (min t1d1 t1d2)) :
    (0 ≤ i ∧ i < nz) ∧ (0 ≤ j ∧ j < nx) ∧ (0 ≤ 0 ∧ 0 < 2) := ⟨Idx.down, Idx.up, by decide⟩

theorem fteik2d_sweep_L180c12_ctx2 (i i1 j j1 nx nz sgntx sgntz sgnvx sgnvz t1d t1d1 t1d2 : Int) (_ : 2 ≤ nz) (_ : 2 ≤ nx) (_ : j ≤ (nx - 2)) (_ : (-1) < j) (_ : 1 ≤ i) (_ : i < nz) (_ : sgnvz = 1) (_ : sgnvx = 0) (_ : sgntz = 1) (_ : sgntx = -1) (_ : i1 = (i - sgnvz)) (_ : j1 = (j - sgnvx)) (_ : t1d = (min t1d1 t1d2)) :
    (0 ≤ i ∧ i < nz) ∧ (0 ≤ j ∧ j < nx) ∧ (0 ≤ 0 ∧ 0 < 2) := ⟨Idx.up, Idx.down, by decide⟩

theorem fteik2d_sweep_L180c12_ctx3 (i i1 j j1 nx nz sgntx sgntz sgnvx sgnvz t1d t1d1 t1d2 : Int) (_ : 2 ≤ nz) (_ : 2 ≤ nx) (_ : j ≤ (nx - 2)) (_ : (-1) < j) (_ : i ≤ (nz - 2)) (_ : (-1) < i) (_ : sgnvz = 0) (_ : sgnvx = 0) (_ : sgntz = -1) (_ : sgntx = -1) (_ : i1 = (i - sgnvz)) (_ : j1 = (j - sgnvx)) (_ : t1d = (min t1d1 t1d2)) :
    (0 ≤ i ∧ i < nz) ∧ (0 ≤ j ∧ j < nx) ∧ (0 ≤ 0 ∧ 0 < 2) := ⟨Idx.down, Idx.down, by decide⟩

theorem fteik2d_sweep_L181c12_ctx0 (i i1 j j1 nx nz sgntx sgntz sgnvx sgnvz t1d t1d1 t1d2 : Int) (_ : 2 ≤ nz) (_ : 2 ≤ nx) (_ : 1 ≤ j) (_ : j < nx) (_ : 1 ≤ i) (_ : i < nz) (_ : sgnvz = 1) (_ : sgnvx = 1) (_ : sgntz = 1) (_ : sgntx = 1) (_ : i1 = (i - sgnvz)) (_ : j1 = (j - sgnvx)) (_ : t1d = (min t1d1 t1d2)) :
    (0 ≤ i ∧ i < nz) ∧ (0 ≤ j ∧ j < nx) ∧ (0 ≤ 1 ∧ 1 < 2) := ⟨Idx.up, Idx.up, by decide⟩

theorem fteik2d_sweep_L181c12_ctx1 (i i1 j j1 nx nz sgntx sgntz sgnvx sgnvz t1d t1d1 t1d2 : Int) (_ : 2 ≤ nz) (_ : 2 ≤ nx) (_ : 1 ≤ j) (_ : j < nx) (_ : i ≤ (nz - 2)) (_ : (-1) < i) (_ : sgnvz = 0) (_ : sgnvx = 1) (_ : sgntz = -1) (_ : sgntx = 1) (_ : i1 = (i - sgnvz)) (_ : j1 = (j - sgnvx)) (_ : t1d = (min t1d1 t1d2)) :
    (0 ≤ i ∧ i < nz) ∧ (0 ≤ j ∧ j < nx) ∧ (0 ≤ 1 ∧ 1 < 2) := ⟨Idx.down, Idx.up, by decide⟩

theorem fteik2d_sweep_L181c12_ctx2 (i i1 j j1 nx nz sgntx sgntz sgnvx sgnvz t1d t1d1 t1d2 : Int) (_ : 2 ≤ nz) (_ : 2 ≤ nx) (_ : j ≤ (nx - 2)) (_ : (-1) < j) (_ : 1 ≤ i) (_ : i < nz) (_ : sgnvz = 1) (_ : sgnvx = 0) (_ : sgntz = 1) (_ : sgntx = -1) (_ : i1 = (i - sgnvz)) (_ : j1 = (j - sgnvx)) (_ : t1d = (min t1d1 t1d2)) :
    (0 ≤ i ∧ i < nz) ∧ (0 ≤ j ∧ j < nx) ∧ (0 ≤ 1 ∧ 1 < 2) := ⟨Idx.up, Idx.down, by decide⟩

theorem fteik2d_sweep_L181c12_ctx3 (i i1 j j1 nx nz sgntx sgntz sgnvx sgnvz t1d t1d1 t1d2 : Int) (_ : 2 ≤ nz) (_ : 2 ≤ nx) (_ : j ≤ (nx - 2)) (_ : (-1) < j) (_ : i ≤ (nz - 2)) (_ : (-1) < i) (_ : sgnvz = 0) (_ : sgnvx = 0) (_ : sgntz = -1) (_ : sgntx = -1) (_ : i1 = (i - sgnvz)) (_ : j1 = (j - sgnvx)) (_ : t1d = (min t1d1 t1d2)) :
    (0 ≤ i ∧ i < nz) ∧ (0 ≤ j ∧ j < nx) ∧ (0 ≤ 1 ∧ 1 < 2) := ⟨Idx.down, Idx.down, by decide⟩

theorem fteik2d_sweep_L182c13_ctx0 (i i1 j j1 nx nz sgntx sgntz sgnvx sgnvz t1d t1d1 t1d2 : Int) (_ : 2 ≤ nz) (_ : 2 ≤ nx) (_ : 1 ≤ j) (_ : j < nx) (_ : 1 ≤ i) (_ : i < nz) (_ : sgnvz = 1) (_ : sgnvx = 1) (_ : sgntz = 1) (_ : sgntx = 1) (_ : i1 = (i - sgnvz)) (_ : j1 = (j - sgnvx)) (_ : t1d = (min t1d1 t1d2)) :
    (0 ≤ i ∧ i < nz) ∧ (0 ≤ j ∧ j < nx) := ⟨Idx.up, Idx.up⟩

theorem fteik2d_sweep_L182c13_ctx1 (i i1 j j1 nx nz sgntx sgntz sgnvx sgnvz t1d t1d1 t1d2 : Int) (_ : 2 ≤ nz) (_ : 2 ≤ nx) (_ : 1 ≤ j) (_ : j < nx) (_ : i ≤ (nz - 2)) (_ : (-1) < i) (_ : sgnvz = 0) (_ : sgnvx = 1) (_ : sgntz = -1) (_ : sgntx = 1) (_ : i1 = (i - sgnvz)) (_ : j1 = (j - sgnvx)) (_ : t1d = (min t1d1 t1d2)) :
    (0 ≤ i ∧ i < nz) ∧ (0 ≤ j ∧ j < nx) := ⟨Idx.down, Idx.up⟩

theorem fteik2d_sweep_L182c13_ctx2 (i i1 j j1 nx nz sgntx sgntz sgnvx sgnvz t1d t1d1 t1d2 : Int) (_ : 2 ≤ nz) (_ : 2 ≤ nx) (_ : j ≤ (nx - 2)) (_ : (-1) < j) (_ : 1 ≤ i) (_ : i < nz) (_ : sgnvz = 1) (_ : sgnvx = 0) (_ : sgntz = 1) (_ : sgntx = -1) (_ : i1 = (i - sgnvz)) (_ : j1 = (j - sgnvx)) (_ : t1d = (min t1d1 t1d2)) :
    (0 ≤ i ∧ i < nz) ∧ (0 ≤ j ∧ j < nx) := ⟨Idx.up, Idx.down⟩

theorem fteik2d_sweep_L182c13_ctx3 (i i1 j j1 nx nz sgntx sgntz sgnvx sgnvz t1d t1d1 t1d2 : Int) (_ : 2 ≤ nz) (_ : 2 ≤ nx) (_ : j ≤ (nx - 2)) (_ : (-1) < j) (_ : i ≤ (nz - 2)) (_ : (-1) < i) (_ : sgnvz = 0) (_ : sgnvx = 0) (_ : sgntz = -1) (_ : sgntx = -1) (_ : i1 = (i - sgnvz)) (_ : j1 = (j - sgnvx)) (_ : t1d = (min t1d1 t1d2)) :
    (0 ≤ i ∧ i < nz) ∧ (0 ≤ j ∧ j < nx) := ⟨Idx.down, Idx.down⟩

theorem fteik2d_sweep_L183c12_ctx0 (i i1 j j1 nx nz sgntx sgntz sgnvx sgnvz t1d t1d1 t1d2 : Int) (_ : 2 ≤ nz) (_ : 2 ≤ nx) (_ : 1 ≤ j) (_ : j < nx) (_ : 1 ≤ i) (_ : i < nz) (_ : sgnvz = 1) (_ : sgnvx = 1) (_ : sgntz = 1) (_ : sgntx = 1) (_ : i1 = (i - sgnvz)) (_ : j1 = (j - sgnvx)) (_ : t1d = (min t1d1 t1d2)) :
    (0 ≤ i ∧ i < nz) ∧ (0 ≤ j ∧ j < nx) ∧ (0 ≤ 0 ∧ 0 < 2) := ⟨Idx.up, Idx.up, by decide⟩

theorem fteik2d_sweep_L183c12_ctx1 (i i1 j j1 nx nz sgntx sgntz sgnvx sgnvz t1d t1d1 t1d2 : Int) (_ : 2 ≤ nz) (_ : 2 ≤ nx) (_ : 1 ≤ j) (_ : j < nx) (_ : i ≤ (nz - 2)) (_ : (-1) < i) (_ : sgnvz = 0) (_ : sgnvx = 1) (_ : sgntz = -1) (_ : sgntx = 1) (_ : i1 = (i - sgnvz)) (_ : j1 = (j - sgnvx)) (_ : t1d = (min t1d1 t1d2)) :
    (0 ≤ i ∧ i < nz) ∧ (0 ≤ j ∧ j < nx) ∧ (0 ≤ 0 ∧ 0 < 2) := ⟨Idx.down, Idx.up, by decide⟩

theorem fteik2d_sweep_L183c12_ctx2 (i i1 j j1 nx nz sgntx sgntz sgnvx sgnvz t1d t1d1 t1d2 : Int) (_ : 2 ≤ nz) (_ : 2 ≤ nx) (_ : j ≤ (nx - 2)) (_ : (-1) < j) (_ : 1 ≤ i) (_ : i < nz) (_ : sgnvz = 1) (_ : sgnvx = 0) (_ : sgntz = 1) (_ : sgntx = -1) (_ : i1 = (i - sgnvz)) (_ : j1 = (j - sgnvx)) (_ : t1d = (min t1d1 t1d2)) :
    (0 ≤ i ∧ i < nz) ∧ (0 ≤ j ∧ j < nx) ∧ (0 ≤ 0 ∧ 0 < 2) := ⟨Idx.up, Idx.down, by decide⟩

theorem fteik2d_sweep_L183c12_ctx3 (i i1 j j1 nx nz sgntx sgntz sgnvx sgnvz t1d t1d1 t1d2 : Int) (_ : 2 ≤ nz) (_ : 2 ≤ nx) (_ : j ≤ (nx - 2)) (_ : (-1) < j) (_ : i ≤ (nz - 2)) (_ : (-1) < i) (_ : sgnvz = 0) (_ : sgnvx = 0) (_ : sgntz = -1) (_ : sgntx = -1) (_ : i1 = (i - sgnvz)) (_ : j1 = (j - sgnvx)) (_ : t1d = (min t1d1 t1d2)) :
    (0 ≤ i ∧ i < nz) ∧ (0 ≤ j ∧ j < nx) ∧ (0 ≤ 0 ∧ 0 < 2) := ⟨Idx.down, Idx.down, by decide⟩

theorem fteik2d_sweep_L184c12_ctx0 (i i1 j j1 nx nz sgntx sgntz sgnvx sgnvz t1d t1d1 t1d2 : Int) (_ : 2 ≤ nz) (_ : 2 ≤ nx) (_ : 1 ≤ j) (_ : j < nx) (_ : 1 ≤ i) (_ : i < nz) (_ : sgnvz = 1) (_ : sgnvx = 1) (_ : sgntz = 1) (_ : sgntx = 1) (_ : i1 = (i - sgnvz)) (_ : j1 = (j - sgnvx)) (_ : t1d = (min t1d1 t1d2)) :
    (0 ≤ i ∧ i < nz) ∧ (0 ≤ j ∧ j < nx) ∧ (0 ≤ 1 ∧ 1 < 2) := ⟨Idx.up, Idx.up, by decide⟩

theorem fteik2d_sweep_L184c12_ctx1 (i i1 j j1 nx nz sgntx sgntz sgnvx sgnvz t1d t1d1 t1d2 : Int) (_ : 2 ≤ nz) (_ : 2 ≤ nx) (_ : 1 ≤ j) (_ : j < nx) (_ : i ≤ (nz - 2)) (_ : (-1) < i) (_ : sgnvz = 0) (_ : sgnvx = 1) (_ : sgntz = -1) (_ : sgntx = 1) (_ : i1 = (i - sgnvz)) (_ : j1 = (j - sgnvx)) (_ : t1d = (min t1d1 t1d2)) :
    (0 ≤ i ∧ i < nz) ∧ (0 ≤ j ∧ j < nx) ∧ (0 ≤ 1 ∧ 1 < 2) := ⟨Idx.down, Idx.up, by decide⟩

theorem fteik2d_sweep_L184c12_ctx2 (i i1 j j1 nx nz sgntx sgntz sgnvx sgnvz t1d t1d1 t1d2 : Int) (_ : 2 ≤ nz) (_ : 2 ≤ nx) (_ : j ≤ (nx - 2)) (_ : (-1) < j) (_ : 1 ≤ i) (_ : i < nz) (_ : sgnvz = 1) (_ : sgnvx = 0) (_ : sgntz = 1) (_ : sgntx = -1) (_ : i1 = (i - sgnvz)) (_ : j1 = (j - sgnvx)) (_ : t1d = (min t1d1 t1d2)) :
    (0 ≤ i ∧ i < nz) ∧ (0 ≤ j ∧ j < nx) ∧ (0 ≤ 1 ∧ 1 < 2) := ⟨Idx.up, Idx.down, by decide⟩

theorem fteik2d_sweep_L184c12_ctx3 (i i1 j j1 nx nz sgntx sgntz sgnvx sgnvz t1d t1d1 t1d2 : Int) (_ : 2 ≤ nz) (_ : 2 ≤ nx) (_ : j ≤ (nx - 2)) (_ : (-1) < j) (_ : i ≤ (nz - 2)) (_ : (-1) < i) (_ : sgnvz = 0) (_ : sgnvx = 0) (_ : sgntz = -1) (_ : sgntx = -1) (_ : i1 = (i - sgnvz)) (_ : j1 = (j - sgnvx)) (_ : t1d = (min t1d1 t1d2)) :
    (0 ≤ i ∧ i < nz) ∧ (0 ≤ j ∧ j < nx) ∧ (0 ≤ 1 ∧ 1 < 2) := ⟨Idx.down, Idx.down, by decide⟩

theorem fteik2d_sweep_L186c12_ctx0 (i i1 j j1 nx nz sgntx sgntz sgnvx sgnvz t1d t1d1 t1d2 : Int) (_ : 2 ≤ nz) (_ : 2 ≤ nx) (_ : 1 ≤ j) (_ : j < nx) (_ : 1 ≤ i) (_ : i < nz) (_ : sgnvz = 1) (_ : sgnvx = 1) (_ : sgntz = 1) (_ : sgntx = 1) (_ : i1 = (i - sgnvz)) (_ : j1 = (j - sgnvx)) (_ : t1d = (min t1d1 t1d2)) :
    (0 ≤ i ∧ i < nz) ∧ (0 ≤ j ∧ j < nx) ∧ (0 ≤ 0 ∧ 0 < 2) := ⟨Idx.up, Idx.up, by decide⟩

theorem fteik2d_sweep_L186c12_ctx1 (i i1 j j1 nx nz sgntx sgntz sgnvx sgnvz t1d t1d1 t1d2 : Int) (_ : 2 ≤ nz) (_ : 2 ≤ nx) (_ : 1 ≤ j) (_ : j < nx) (_ : i ≤ (nz - 2)) (_ : (-1) < i) (_ : sgnvz = 0) (_ : sgnvx = 1) (_ : sgntz = -1) (_ : sgntx = 1) (_ : i1 = (i - sgnvz)) (_ : j1 = (j - sgnvx)) (_ : t1d = (min t1d1 t1d2)) :
    (0 ≤ i ∧ i < nz) ∧ (0 ≤ j ∧ j < nx) ∧ (0 ≤ 0 ∧ 0 < 2) := ⟨Idx.down, Idx.up, by decide⟩

theorem fteik2d_sweep_L186c12_ctx2 (i i1 j j1 nx nz sgntx sgntz sgnvx sgnvz t1d t1d1 t1d2 : Int) (_ : 2 ≤ nz) (_ : 2 ≤ nx) (_ : j ≤ (nx - 2)) (_ : (-1) < j) (_ : 1 ≤ i) (_ : i < nz) (_ : sgnvz = 1) (_ : sgnvx = 0) (_ : sgntz = 1) (_ : sgntx = -1) (_ : i1 = (i - sgnvz)) (_ : j1 = (j - sgnvx)) (_ : t1d = (min t1d1 t1d2)) :
    (0 ≤ i ∧ i < nz) ∧ (0 ≤ j ∧ j < nx) ∧ (0 ≤ 0 ∧ 0 < 2) := ⟨Idx.up, Idx.down, by decide⟩

theorem fteik2d_sweep_L186c12_ctx3 (i i1 j j1 nx nz sgntx sgntz sgnvx sgnvz t1d t1d1 t1d2 : Int) (_ : 2 ≤ nz) (_ : 2 ≤ nx) (_ : j ≤ (nx - 2)) (_ : (-1) < j) (_ : i ≤ (nz - 2)) (_ : (-1) < i) (_ : sgnvz = 0) (_ : sgnvx = 0) (_ : sgntz = -1) (_ : sgntx = -1) (_ : i1 = (i - sgnvz)) (_ : j1 = (j - sgnvx)) (_ : t1d = (min t1d1 t1d2)) :
    (0 ≤ i ∧ i < nz) ∧ (0 ≤ j ∧ j < nx) ∧ (0 ≤ 0 ∧ 0 < 2) := ⟨Idx.down, Idx.down, by decide⟩

theorem fteik2d_sweep_L187c12_ctx0 (i i1 j j1 nx nz sgntx sgntz sgnvx sgnvz t1d t1d1 t1d2 : Int) (_ : 2 ≤ nz) (_ : 2 ≤ nx) (_ : 1 ≤ j) (_ : j < nx) (_ : 1 ≤ i) (_ : i < nz) (_ : sgnvz = 1) (_ : sgnvx = 1) (_ : sgntz = 1) (_ : sgntx = 1) (_ : i1 = (i - sgnvz)) (_ : j1 = (j - sgnvx)) (_ : t1d = (min t1d1 t1d2)) :
    (0 ≤ i ∧ i < nz) ∧ (0 ≤ j ∧ j < nx) ∧ (0 ≤ 1 ∧ 1 < 2) := ⟨Idx.up, Idx.up, by decide⟩

theorem fteik2d_sweep_L187c12_ctx1 (i i1 j j1 nx nz sgntx sgntz sgnvx sgnvz t1d t1d1 t1d2 : Int) (_ : 2 ≤ nz) (_ : 2 ≤ nx) (_ : 1 ≤ j) (_ : j < nx) (_ : i ≤ (nz - 2)) (_ : (-1) < i) (_ : sgnvz = 0) (_ : sgnvx = 1) (_ : sgntz = -1) (_ : sgntx = 1) (_ : i1 = (i - sgnvz)) (_ : j1 = (j - sgnvx)) (_ : t1d = (min t1d1 t1d2)) :
    (0 ≤ i ∧ i < nz) ∧ (0 ≤ j ∧ j < nx) ∧ (0 ≤ 1 ∧ 1 < 2) := ⟨Idx.down, Idx.up, by decide⟩

theorem fteik2d_sweep_L187c12_ctx2 (i i1 j j1 nx nz sgntx sgntz sgnvx sgnvz t1d t1d1 t1d2 : Int) (_ : 2 ≤ nz) (_ : 2 ≤ nx) (_ : j ≤ (nx - 2)) (_ : (-1) < j) (_ : 1 ≤ i) (_ : i < nz) (_ : sgnvz = 1) (_ : sgnvx = 0) (_ : sgntz = 1) (_ : sgntx = -1) (_ : i1 = (i - sgnvz)) (_ : j1 = (j - sgnvx)) (_ : t1d = (min t1d1 t1d2)) :
    (0 ≤ i ∧ i < nz) ∧ (0 ≤ j ∧ j < nx) ∧ (0 ≤ 1 ∧ 1 < 2) := ⟨Idx.up, Idx.down, by decide⟩

theorem fteik2d_sweep_L187c12_ctx3 (i i1 j j1 nx nz sgntx sgntz sgnvx sgnvz t1d t1d1 t1d2 : Int) (_ : 2 ≤ nz) (_ : 2 ≤ nx) (_ : j ≤ (nx - 2)) (_ : (-1) < j) (_ : i ≤ (nz - 2)) (_ : (-1) < i) (_ : sgnvz = 0) (_ : sgnvx = 0) (_ : sgntz = -1) (_ : sgntx = -1) (_ : i1 = (i - sgnvz)) (_ : j1 = (j - sgnvx)) (_ : t1d = (min t1d1 t1d2)) :
    (0 ≤ i ∧ i < nz) ∧ (0 ≤ j ∧ j < nx) ∧ (0 ≤ 1 ∧ 1 < 2) := ⟨Idx.down, Idx.down, by decide⟩

theorem fteik3d_sweep_L68c9_ctx0 (i i1 j j1 k k1 nx ny nz sgntx sgnty sgntz sgnvx sgnvy sgnvz : Int) (_ : 2 ≤ nz) (_ : 2 ≤ nx) (_ : 2 ≤ ny) (_ : 1 ≤ k) (_ : k < ny) (_ : 1 ≤ j) (_ : j < nx) (_ : 1 ≤ i) (_ : i < nz) (_ : sgnvz = 1) (_ : sgnvx = 1) (_ : sgnvy = 1) (_ : sgntz = 1) (_ : sgntx = 1) (_ : sgnty = 1) (_ : i1 = (i - sgnvz)) (_ : j1 = (j - sgnvx)) (_ : k1 = (k - sgnvy)) :
    (0 ≤ (i - sgntz) ∧ (i - sgntz) < nz) ∧ (0 ≤ j ∧ j < nx) ∧ (0 ≤ k ∧ k < ny) := ⟨Idx.up_upwind, Idx.up, Idx.up⟩

theorem fteik3d_sweep_L68c9_ctx1 (i i1 j j1 k k1 nx ny nz sgntx sgnty sgntz sgnvx sgnvy sgnvz : Int) (_ : 2 ≤ nz) (_ : 2 ≤ nx) (_ : 2 ≤ ny) (_ : 1 ≤ k) (_ : k < ny) (_ : j ≤ (nx - 2)) (_ : (-1) < j) (_ : 1 ≤ i) (_ : i < nz) (_ : sgnvz = 1) (_ : sgnvx = 0) (_ : sgnvy = 1) (_ : sgntz = 1) (_ : sgntx = -1) (_ : sgnty = 1) (_ : i1 = (i - sgnvz)) (_ : j1 = (j - sgnvx)) (_ : k1 = (k - sgnvy)) :
    (0 ≤ (i - sgntz) ∧ (i - sgntz) < nz) ∧ (0 ≤ j ∧ j < nx) ∧ (0 ≤ k ∧ k < ny) := ⟨Idx.up_upwind, Idx.down, Idx.up⟩

theorem fteik3d_sweep_L68c9_ctx2 (i i1 j j1 k k1 nx ny nz sgntx sgnty sgntz sgnvx sgnvy sgnvz : Int) (_ : 2 ≤ nz) (_ : 2 ≤ nx) (_ : 2 ≤ ny) (_ : k ≤ (ny - 2)) (_ : (-1) < k) (_ : 1 ≤ j) (_ : j < nx) (_ : 1 ≤ i) (_ : i < nz) (_ : sgnvz = 1) (_ : sgnvx = 1) (_ : sgnvy = 0) (_ : sgntz = 1) (_ : sgntx = 1) (_ : sgnty = -1) (_ : i1 = (i - sgnvz)) (_ : j1 = (j - sgnvx)) (_ : k1 = (k - sgnvy)) :
    (0 ≤ (i - sgntz) ∧ (i - sgntz) < nz) ∧ (0 ≤ j ∧ j < nx) ∧ (0 ≤ k ∧ k < ny) := ⟨Idx.up_upwind, Idx.up, Idx.down⟩

theorem fteik3d_sweep_L68c9_ctx3 (i i1 j j1 k k1 nx ny nz sgntx sgnty sgntz sgnvx sgnvy sgnvz : Int) (_ : 2 ≤ nz) (_ : 2 ≤ nx) (_ : 2 ≤ ny) (_ : k ≤ (ny - 2)) (_ : (-1) < k) (_ : j ≤ (nx - 2)) (_ : (-1) < j) (_ : 1 ≤ i) (_ : i < nz) (_ : sgnvz = 1) (_ : sgnvx = 0) (_ : sgnvy = 0) (_ : sgntz = 1) (_ : sgntx = -1) (_ : sgnty = -1) (_ : i1 = (i - sgnvz)) (_ : j1 = (j - sgnvx)) (_ : k1 = (k - sgnvy)) :
    (0 ≤ (i - sgntz) ∧ (i - sgntz) < nz) ∧ (0 ≤ j ∧ j < nx) ∧ (0 ≤ k ∧ k < ny) := ⟨Idx.up_upwind, Idx.down, Idx.down⟩

theorem fteik3d_sweep_L68c9_ctx4 (i i1 j j1 k k1 nx ny nz sgntx sgnty sgntz sgnvx sgnvy sgnvz : Int) (_ : 2 ≤ nz) (_ : 2 ≤ nx) (_ : 2 ≤ ny) (_ : 1 ≤ k) (_ : k < ny) (_ : 1 ≤ j) (_ : j < nx) (_ : i ≤ (nz - 2)) (_ : (-1) < i) (_ : sgnvz = 0) (_ : sgnvx = 1) (_ : sgnvy = 1) (_ : sgntz = -1) (_ : sgntx = 1) (_ : sgnty = 1) (_ : i1 = (i - sgnvz)) (_ : j1 = (j - sgnvx)) (_ : k1 = (k - sgnvy)) :
    (0 ≤ (i - sgntz) ∧ (i - sgntz) < nz) ∧ (0 ≤ j ∧ j < nx) ∧ (0 ≤ k ∧ k < ny) := ⟨Idx.down_upwind, Idx.up, Idx.up⟩

theorem fteik3d_sweep_L68c9_ctx5 (i i1 j j1 k k1 nx ny nz sgntx sgnty sgntz sgnvx sgnvy sgnvz : Int) (_ : 2 ≤ nz) (_ : 2 ≤ nx) (_ : 2 ≤ ny) (_ : 1 ≤ k) (_ : k < ny) (_ : j ≤ (nx - 2)) (_ : (-1) < j) (_ : i ≤ (nz - 2)) (_ : (-1) < i) (_ : sgnvz = 0) (_ : sgnvx = 0) (_ : sgnvy = 1) (_ : sgntz = -1) (_ : sgntx = -1) (_ : sgnty = 1) (_ : i1 = (i - sgnvz)) (_ : j1 = (j - sgnvx)) (_ : k1 = (k - sgnvy)) :
    (0 ≤ (i - sgntz) ∧ (i - sgntz) < nz) ∧ (0 ≤ j ∧ j < nx) ∧ (0 ≤ k ∧ k < ny) := ⟨Idx.down_upwind, Idx.down, Idx.up⟩

theorem fteik3d_sweep_L68c9_ctx6 (i i1 j j1 k k1 nx ny nz sgntx sgnty sgntz sgnvx sgnvy sgnvz : Int) (_ : 2 ≤ nz) (_ : 2 ≤ nx) (_ : 2 ≤ ny) (_ : k ≤ (ny - 2)) (_ : (-1) < k) (_ : 1 ≤ j) (_ : j < nx) (_ : i ≤ (nz - 2)) (_ : (-1) < i) (_ : sgnvz = 0) (_ : sgnvx = 1) (_ : sgnvy = 0) (_ : sgntz = -1) (_ : sgntx = 1) (_ : sgnty = -1) (_ : i1 = (i - sgnvz)) (_ : j1 = (j - sgnvx)) (_ : k1 = (k - sgnvy)) :
    (0 ≤ (i - sgntz) ∧ (i - sgntz) < nz) ∧ (0 ≤ j ∧ j < nx) ∧ (0 ≤ k ∧ k < ny) := ⟨Idx.down_upwind, Idx.up, Idx.down⟩

theorem fteik3d_sweep_L68c9_ctx7 (i i1 j j1 k k1 nx ny nz sgntx sgnty sgntz sgnvx sgnvy sgnvz : Int) (_ : 2 ≤ nz) (_ : 2 ≤ nx) (_ : 2 ≤ ny) (_ : k ≤ (ny - 2)) (_ : (-1) < k) (_ : j ≤ (nx - 2)) (_ : (-1) < j) (_ : i ≤ (nz - 2)) (_ : (-1) < i) (_ : sgnvz = 0) (_ : sgnvx = 0) (_ : sgnvy = 0) (_ : sgntz = -1) (_ : sgntx = -1) (_ : sgnty = -1) (_ : i1 = (i - sgnvz)) (_ : j1 = (j - sgnvx)) (_ : k1 = (k - sgnvy)) :
    (0 ≤ (i - sgntz) ∧ (i - sgntz) < nz) ∧ (0 ≤ j ∧ j < nx) ∧ (0 ≤ k ∧ k < ny) := ⟨Idx.down_upwind, Idx.down, Idx.down⟩

theorem fteik3d_sweep_L69c9_ctx0 (i i1 j j1 k k1 nx ny nz sgntx sgnty sgntz sgnvx sgnvy sgnvz : Int) (_ : 2 ≤ nz) (_ : 2 ≤ nx) (_ : 2 ≤ ny) (_ : 1 ≤ k) (_ : k < ny) (_ : 1 ≤ j) (_ : j < nx) (_ : 1 ≤ i) (_ : i < nz) (_ : sgnvz = 1) (_ : sgnvx = 1) (_ : sgnvy = 1) (_ : sgntz = 1) (_ : sgntx = 1) (_ : sgnty = 1) (_ : i1 = (i - sgnvz)) (_ : j1 = (j - sgnvx)) (_ : k1 = (k - sgnvy)) :
    (0 ≤ i ∧ i < nz) ∧ (0 ≤ (j - sgntx) ∧ (j - sgntx) < nx) ∧ (0 ≤ k ∧ k < ny) := ⟨Idx.up, Idx.up_upwind, Idx.up⟩

theorem fteik3d_sweep_L69c9_ctx1 (i i1 j j1 k k1 nx ny nz sgntx sgnty sgntz sgnvx sgnvy sgnvz : Int) (_ : 2 ≤ nz) (_ : 2 ≤ nx) (_ : 2 ≤ ny) (_ : 1 ≤ k) (_ : k < ny) (_ : j ≤ (nx - 2)) (_ : (-1) < j) (_ : 1 ≤ i) (_ : i < nz) (_ : sgnvz = 1) (_ : sgnvx = 0) (_ : sgnvy = 1) (_ : sgntz = 1) (_ : sgntx = -1) (_ : sgnty = 1) (_ : i1 = (i - sgnvz)) (_ : j1 = (j - sgnvx)) (_ : k1 = (k - sgnvy)) :
    (0 ≤ i ∧ i < nz) ∧ (0 ≤ (j - sgntx) ∧ (j - sgntx) < nx) ∧ (0 ≤ k ∧ k < ny) := ⟨Idx.up, Idx.down_upwind, Idx.up⟩

theorem fteik3d_sweep_L69c9_ctx2 (i i1 j j1 k k1 nx ny nz sgntx sgnty sgntz sgnvx sgnvy sgnvz : Int) (_ : 2 ≤ nz) (_ : 2 ≤ nx) (_ : 2 ≤ ny) (_ : k ≤ (ny - 2)) (_ : (-1) < k) (_ : 1 ≤ j) (_ : j < nx) (_ : 1 ≤ i) (_ : i < nz) (_ : sgnvz = 1) (_ : sgnvx = 1) (_ : sgnvy = 0) (_ : sgntz = 1) (_ : sgntx = 1) (_ : sgnty = -1) (_ : i1 = (i - sgnvz)) (_ : j1 = (j - sgnvx)) (_ : k1 = (k - sgnvy)) :
    (0 ≤ i ∧ i < nz) ∧ (0 ≤ (j - sgntx) ∧ (j - sgntx) < nx) ∧ (0 ≤ k ∧ k < ny) := ⟨Idx.up, Idx.up_upwind, Idx.down⟩

theorem fteik3d_sweep_L69c9_ctx3 (i i1 j j1 k k1 nx ny nz sgntx sgnty sgntz sgnvx sgnvy sgnvz : Int) (_ : 2 ≤ nz) (_ : 2 ≤ nx) (_ : 2 ≤ ny) (_ : k ≤ (ny - 2)) (_ : (-1) < k) (_ : j ≤ (nx - 2)) (_ : (-1) < j) (_ : 1 ≤ i) (_ : i < nz) (_ : sgnvz = 1) (_ : sgnvx = 0) (_ : sgnvy = 0) (_ : sgntz = 1) (_ : sgntx = -1) (_ : sgnty = -1) (_ : i1 = (i - sgnvz)) (_ : j1 = (j - sgnvx)) (_ : k1 = (k - sgnvy)) :
    (0 ≤ i ∧ i < nz) ∧ (0 ≤ (j - sgntx) ∧ (j - sgntx) < nx) ∧ (0 ≤ k ∧ k < ny) := ⟨Idx.up, Idx.down_upwind, Idx.down⟩

theorem fteik3d_sweep_L69c9_ctx4 (i i1 j j1 k k1 nx ny nz sgntx sgnty sgntz sgnvx sgnvy sgnvz : Int) (_ : 2 ≤ nz) (_ : 2 ≤ nx) (_ : 2 ≤ ny) (_ : 1 ≤ k) (_ : k < ny) (_ : 1 ≤ j) (_ : j < nx) (_ : i ≤ (nz - 2)) (_ : (-1) < i) (_ : sgnvz = 0) (_ : sgnvx = 1) (_ : sgnvy = 1) (_ : sgntz = -1) (_ : sgntx = 1) (_ : sgnty = 1) (_ : i1 = (i - sgnvz)) (_ : j1 = (j - sgnvx)) (_ : k1 = (k - sgnvy)) :
    (0 ≤ i ∧ i < nz) ∧ (0 ≤ (j - sgntx) ∧ (j - sgntx) < nx) ∧ (0 ≤ k ∧ k < ny) := ⟨Idx.down, Idx.up_upwind, Idx.up⟩

theorem fteik3d_sweep_L69c9_ctx5 (i i1 j j1 k k1 nx ny nz sgntx sgnty sgntz sgnvx sgnvy sgnvz : Int) (_ : 2 ≤ nz) (_ : 2 ≤ nx) (_ : 2 ≤ ny) (_ : 1 ≤ k) (_ : k < ny) (_ : j ≤ (nx - 2)) (_ : (-1) < j) (_ : i ≤ (nz - 2)) (_ : (-1) < i) (_ : sgnvz = 0) (_ : sgnvx = 0) (_ : sgnvy = 1) (_ : sgntz = -1) (_ : sgntx = -1) (_ : sgnty = 1) (_ : i1 = (i - sgnvz)) (_ : j1 = (j - sgnvx)) (_ : k1 = (k - sgnvy)) :
    (0 ≤ i ∧ i < nz) ∧ (0 ≤ (j - sgntx) ∧ (j - sgntx) < nx) ∧ (0 ≤ k ∧ k < ny) := ⟨Idx.down, Idx.down_upwind, Idx.up⟩

theorem fteik3d_sweep_L69c9_ctx6 (i i1 j j1 k k1 nx ny nz sgntx sgnty sgntz sgnvx sgnvy sgnvz : Int) (_ : 2 ≤ nz) (_ : 2 ≤ nx) (_ : 2 ≤ ny) (_ : k ≤ (ny - 2)) (_ : (-1) < k) (_ : 1 ≤ j) (_ : j < nx) (_ : i ≤ (nz - 2)) (_ : (-1) < i) (_ : sgnvz = 0) (_ : sgnvx = 1) (_ : sgnvy = 0) (_ : sgntz = -1) (_ : sgntx = 1) (_ : sgnty = -1) (_ : i1 = (i - sgnvz)) (_ : j1 = (j - sgnvx)) (_ : k1 = (k - sgnvy)) :
    (0 ≤ i ∧ i < nz) ∧ (0 ≤ (j - sgntx) ∧ (j - sgntx) < nx) ∧ (0 ≤ k ∧ k < ny) := ⟨Idx.down, Idx.up_upwind, Idx.down⟩

theorem fteik3d_sweep_L69c9_ctx7 (i i1 j j1 k k1 nx ny nz sgntx sgnty sgntz sgnvx sgnvy sgnvz : Int) (_ : 2 ≤ nz) (_ : 2 ≤ nx) (_ : 2 ≤ ny) (_ : k ≤ (ny - 2)) (_ : (-1) < k) (_ : j ≤ (nx - 2)) (_ : (-1) < j) (_ : i ≤ (nz - 2)) (_ : (-1) < i) (_ : sgnvz = 0) (_ : sgnvx = 0) (_ : sgnvy = 0) (_ : sgntz = -1) (_ : sgntx = -1) (_ : sgnty = -1) (_ : i1 = (i - sgnvz)) (_ : j1 = (j - sgnvx)) (_ : k1 = (k - sgnvy)) :
    (0 ≤ i ∧ i < nz) ∧ (0 ≤ (j - sgntx) ∧ (j - sgntx) < nx) ∧ (0 ≤ k ∧ k < ny) := ⟨Idx.down, Idx.down_upwind, Idx.down⟩

theorem fteik3d_sweep_L70c9_ctx0 (i i1 j j1 k k1 nx ny nz sgntx sgnty sgntz sgnvx sgnvy sgnvz : Int) (_ : 2 ≤ nz) (_ : 2 ≤ nx) (_ : 2 ≤ ny) (_ : 1 ≤ k) (_ : k < ny) (_ : 1 ≤ j) (_ : j < nx) (_ : 1 ≤ i) (_ : i < nz) (_ : sgnvz = 1) (_ : sgnvx = 1) (_ : sgnvy = 1) (_ : sgntz = 1) (_ : sgntx = 1) (_ : sgnty = 1) (_ : i1 = (i - sgnvz)) (_ : j1 = (j - sgnvx)) (_ : k1 = (k - sgnvy)) :
    (0 ≤ i ∧ i < nz) ∧ (0 ≤ j ∧ j < nx) ∧ (0 ≤ (k - sgnty) ∧ (k - sgnty) < ny) := ⟨Idx.up, Idx.up, Idx.up_upwind⟩

theorem fteik3d_sweep_L70c9_ctx1 (i i1 j j1 k k1 nx ny nz sgntx sgnty sgntz sgnvx sgnvy sgnvz : Int) (_ : 2 ≤ nz) (_ : 2 ≤ nx) (_ : 2 ≤ ny) (_ : 1 ≤ k) (_ : k < ny) (_ : j ≤ (nx - 2)) (_ : (-1) < j) (_ : 1 ≤ i) (_ : i < nz) (_ : sgnvz = 1) (_ : sgnvx = 0) (_ : sgnvy = 1) (_ : sgntz = 1) (_ : sgntx = -1) (_ : sgnty = 1) (_ : i1 = (i - sgnvz)) (_ : j1 = (j - sgnvx)) (_ : k1 = (k - sgnvy)) :
    (0 ≤ i ∧ i < nz) ∧ (0 ≤ j ∧ j < nx) ∧ (0 ≤ (k - sgnty) ∧ (k - sgnty) < ny) := ⟨Idx.up, Idx.down, Idx.up_upwind⟩

theorem fteik3d_sweep_L70c9_ctx2 (i i1 j j1 k k1 nx ny nz sgntx sgnty sgntz sgnvx sgnvy sgnvz : Int) (_ : 2 ≤ nz) (_ : 2 ≤ nx) (_ : 2 ≤ ny) (_ : k ≤ (ny - 2)) (_ : (-1) < k) (_ : 1 ≤ j) (_ : j < nx) (_ : 1 ≤ i) (_ : i < nz) (_ : sgnvz = 1) (_ : sgnvx = 1) (_ : sgnvy = 0) (_ : sgntz = 1) (_ : sgntx = 1) (_ : sgnty = -1) (_ : i1 = (i - sgnvz)) (_ : j1 = (j - sgnvx)) (_ : k1 = (k - sgnvy)) :
    (0 ≤ i ∧ i < nz) ∧ (0 ≤ j ∧ j < nx) ∧ (0 ≤ (k - sgnty) ∧ (k - sgnty) < ny) := ⟨Idx.up, Idx.up, Idx.down_upwind⟩

theorem fteik3d_sweep_L70c9_ctx3 (i i1 j j1 k k1 nx ny nz sgntx sgnty sgntz sgnvx sgnvy sgnvz : Int) (_ : 2 ≤ nz) (_ : 2 ≤ nx) (_ : 2 ≤ ny) (_ : k ≤ (ny - 2)) (_ : (-1) < k) (_ : j ≤ (nx - 2)) (_ : (-1) < j) (_ : 1 ≤ i) (_ : i < nz) (_ : sgnvz = 1) (_ : sgnvx = 0) (_ : sgnvy = 0) (_ : sgntz = 1) (_ : sgntx = -1) (_ : sgnty = -1) (_ : i1 = (i - sgnvz)) (_ : j1 = (j - sgnvx)) (_ : k1 = (k - sgnvy)) :
    (0 ≤ i ∧ i < nz) ∧ (0 ≤ j ∧ j < nx) ∧ (0 ≤ (k - sgnty) ∧ (k - sgnty) < ny) := ⟨Idx.up, Idx.down, Idx.down_upwind⟩

theorem fteik3d_sweep_L70c9_ctx4 (i i1 j j1 k k1 nx ny nz sgntx sgnty sgntz sgnvx sgnvy sgnvz : Int) (_ : 2 ≤ nz) (_ : 2 ≤ nx) (_ : 2 ≤ ny) (_ : 1 ≤ k) (_ : k < ny) (_ : 1 ≤ j) (_ : j < nx) (_ : i ≤ (nz - 2)) (_ : (-1) < i) (_ : sgnvz = 0) (_ : sgnvx = 1) (_ : sgnvy = 1) (_ : sgntz = -1) (_ : sgntx = 1) (_ : sgnty = 1) (_ : i1 = (i - sgnvz)) (_ : j1 = (j - sgnvx)) (_ : k1 = (k - sgnvy)) :
    (0 ≤ i ∧ i < nz) ∧ (0 ≤ j ∧ j < nx) ∧ (0 ≤ (k - sgnty) ∧ (k - sgnty) < ny) := ⟨Idx.down, Idx.up, Idx.up_upwind⟩

theorem fteik3d_sweep_L70c9_ctx5 (i i1 j j1 k k1 nx ny nz sgntx sgnty sgntz sgnvx sgnvy sgnvz : Int) (_ : 2 ≤ nz) (_ : 2 ≤ nx) (_ : 2 ≤ ny) (_ : 1 ≤ k) (_ : k < ny) (_ : j ≤ (nx - 2)) (_ : (-1) < j) (_ : i ≤ (nz - 2)) (_ : (-1) < i) (_ : sgnvz = 0) (_ : sgnvx = 0) (_ : sgnvy = 1) (_ : sgntz = -1) (_ : sgntx = -1) (_ : sgnty = 1) (_ : i1 = (i - sgnvz)) (_ : j1 = (j - sgnvx)) (_ : k1 = (k - sgnvy)) :
    (0 ≤ i ∧ i < nz) ∧ (0 ≤ j ∧ j < nx) ∧ (0 ≤ (k - sgnty) ∧ (k - sgnty) < ny) := ⟨Idx.down, Idx.down, Idx.up_upwind⟩

theorem fteik3d_sweep_L70c9_ctx6 (i i1 j j1 k k1 nx ny nz sgntx sgnty sgntz sgnvx sgnvy sgnvz : Int) (_ : 2 ≤ nz) (_ : 2 ≤ nx) (_ : 2 ≤ ny) (_ : k ≤ (ny - 2)) (_ : (-1) < k) (_ : 1 ≤ j) (_ : j < nx) (_ : i ≤ (nz - 2)) (_ : (-1) < i) (_ : sgnvz = 0) (_ : sgnvx = 1) (_ : sgnvy = 0) (_ : sgntz = -1) (_ : sgntx = 1) (_ : sgnty = -1) (_ : i1 = (i - sgnvz)) (_ : j1 = (j - sgnvx)) (_ : k1 = (k - sgnvy)) :
    (0 ≤ i ∧ i < nz) ∧ (0 ≤ j ∧ j < nx) ∧ (0 ≤ (k - sgnty) ∧ (k - sgnty) < ny) := ⟨Idx.down, Idx.up, Idx.down_upwind⟩

theorem fteik3d_sweep_L70c9_ctx7 (i i1 j j1 k k1 nx ny nz sgntx sgnty sgntz sgnvx sgnvy sgnvz : Int) (_ : 2 ≤ nz) (_ : 2 ≤ nx) (_ : 2 ≤ ny) (_ : k ≤ (ny - 2)) (_ : (-1) < k) (_ : j ≤ (nx - 2)) (_ : (-1) < j) (_ : i ≤ (nz - 2)) (_ : (-1) < i) (_ : sgnvz = 0) (_ : sgnvx = 0) (_ : sgnvy = 0) (_ : sgntz = -1) (_ : sgntx = -1) (_ : sgnty = -1) (_ : i1 = (i - sgnvz)) (_ : j1 = (j - sgnvx)) (_ : k1 = (k - sgnvy)) :
    (0 ≤ i ∧ i < nz) ∧ (0 ≤ j ∧ j < nx) ∧ (0 ≤ (k - sgnty) ∧ (k - sgnty) < ny) := ⟨Idx.down, Idx.down, Idx.down_upwind⟩

theorem fteik3d_sweep_L71c10_ctx0 (i i1 j j1 k k1 nx ny nz sgntx sgnty sgntz sgnvx sgnvy sgnvz : Int) (_ : 2 ≤ nz) (_ : 2 ≤ nx) (_ : 2 ≤ ny) (_ : 1 ≤ k) (_ : k < ny) (_ : 1 ≤ j) (_ : j < nx) (_ : 1 ≤ i) (_ : i < nz) (_ : sgnvz = 1) (_ : sgnvx = 1) (_ : sgnvy = 1) (_ : sgntz = 1) (_ : sgntx = 1) (_ : sgnty = 1) (_ : i1 = (i - sgnvz)) (_ : j1 = (j - sgnvx)) (_ : k1 = (k - sgnvy)) :
    (0 ≤ (i - sgntz) ∧ (i - sgntz) < nz) ∧ (0 ≤ (j - sgntx) ∧ (j - sgntx) < nx) ∧ (0 ≤ k ∧ k < ny) := ⟨Idx.up_upwind, Idx.up_upwind, Idx.up⟩

theorem fteik3d_sweep_L71c10_ctx1 (i i1 j j1 k k1 nx ny nz sgntx sgnty sgntz sgnvx sgnvy sgnvz : Int) (_ : 2 ≤ nz) (_ : 2 ≤ nx) (_ : 2 ≤ ny) (_ : 1 ≤ k) (_ : k < ny) (_ : j ≤ (nx - 2)) (_ : (-1) < j) (_ : 1 ≤ i) (_ : i < nz) (_ : sgnvz = 1) (_ : sgnvx = 0) (_ : sgnvy = 1) (_ : sgntz = 1) (_ : sgntx = -1) (_ : sgnty = 1) (_ : i1 = (i - sgnvz)) (_ : j1 = (j - sgnvx)) (_ : k1 = (k - sgnvy)) :
    (0 ≤ (i - sgntz) ∧ (i - sgntz) < nz) ∧ (0 ≤ (j - sgntx) ∧ (j - sgntx) < nx) ∧ (0 ≤ k ∧ k < ny) := ⟨Idx.up_upwind, Idx.down_upwind, Idx.up⟩

theorem fteik3d_sweep_L71c10_ctx2 (i i1 j j1 k k1 nx ny nz sgntx sgnty sgntz sgnvx sgnvy sgnvz : Int) (_ : 2 ≤ nz) (_ : 2 ≤ nx) (_ : 2 ≤ ny) (_ : k ≤ (ny - 2)) (_ : (-1) < k) (_ : 1 ≤ j) (_ : j < nx) (_ : 1 ≤ i) (_ : i < nz) (_ : sgnvz = 1) (_ : sgnvx = 1) (_ : sgnvy = 0) (_ : sgntz = 1) (_ : sgntx = 1) (_ : sgnty = -1) (_ : i1 = (i - sgnvz)) (_ : j1 = (j - sgnvx)) (_ : k1 = (k - sgnvy)) :
    (0 ≤ (i - sgntz) ∧ (i - sgntz) < nz) ∧ (0 ≤ (j - sgntx) ∧ (j - sgntx) < nx) ∧ (0 ≤ k ∧ k < ny) := ⟨Idx.up_upwind, Idx.up_upwind, Idx.down⟩

theorem fteik3d_sweep_L71c10_ctx3 (i i1 j j1 k k1 nx ny nz sgntx sgnty sgntz sgnvx sgnvy sgnvz : Int) (_ : 2 ≤ nz) (_ : 2 ≤ nx) (_ : 2 ≤ ny) (_ : k ≤ (ny - 2)) (_ : (-1) < k) (_ : j ≤ (nx - 2)) (_ : (-1) < j) (_ : 1 ≤ i) (_ : i < nz) (_ : sgnvz = 1) (_ : sgnvx = 0) (_ : sgnvy = 0) (_ : sgntz = 1) (_ : sgntx = -1) (_ : sgnty = -1) (_ : i1 = (i - sgnvz)) (_ : j1 = (j - sgnvx)) (_ : k1 = (k - sgnvy)) :
    (0 ≤ (i - sgntz) ∧ (i - sgntz) < nz) ∧ (0 ≤ (j - sgntx) ∧ (j - sgntx) < nx) ∧ (0 ≤ k ∧ k < ny) := ⟨Idx.up_upwind, Idx.down_upwind, Idx.down⟩

theorem fteik3d_sweep_L71c10_ctx4 (i i1 j j1 k k1 nx ny nz sgntx sgnty sgntz sgnvx sgnvy sgnvz : Int) (_ : 2 ≤ nz) (_ : 2 ≤ nx) (_ : 2 ≤ ny) (_ : 1 ≤ k) (_ : k < ny) (_ : 1 ≤ j) (_ : j < nx) (_ : i ≤ (nz - 2)) (_ : (-1) < i) (_ : sgnvz = 0) (_ : sgnvx = 1) (_ : sgnvy = 1) (_ : sgntz = -1) (_ : sgntx = 1) (_ : sgnty = 1) (_ : i1 = (i - sgnvz)) (_ : j1 = (j - sgnvx)) (_ : k1 = (k - sgnvy)) :
    (0 ≤ (i - sgntz) ∧ (i - sgntz) < nz) ∧ (0 ≤ (j - sgntx) ∧ (j - sgntx) < nx) ∧ (0 ≤ k ∧ k < ny) := ⟨Idx.down_upwind, Idx.up_upwind, Idx.up⟩

theorem fteik3d_sweep_L71c10_ctx5 (i i1 j j1 k k1 nx ny nz sgntx sgnty sgntz sgnvx sgnvy sgnvz : Int) (_ : 2 ≤ nz) (_ : 2 ≤ nx) (_ : 2 ≤ ny) (_ : 1 ≤ k) (_ : k < ny) (_ : j ≤ (nx - 2)) (_ : (-1) < j) (_ : i ≤ (nz - 2)) (_ : (-1) < i) (_ : sgnvz = 0) (_ : sgnvx = 0) (_ : sgnvy = 1) (_ : sgntz = -1) (_ : sgntx = -1) (_ : sgnty = 1) (_ : i1 = (i - sgnvz)) (_ : j1 = (j - sgnvx)) (_ : k1 = (k - sgnvy)) :
    (0 ≤ (i - sgntz) ∧ (i - sgntz) < nz) ∧ (0 ≤ (j - sgntx) ∧ (j - sgntx) < nx) ∧ (0 ≤ k ∧ k < ny) := ⟨Idx.down_upwind, Idx.down_upwind, Idx.up⟩

theorem fteik3d_sweep_L71c10_ctx6 (i i1 j j1 k k1 nx ny nz sgntx sgnty sgntz sgnvx sgnvy sgnvz : Int) (_ : 2 ≤ nz) (_ : 2 ≤ nx) (_ : 2 ≤ ny) (_ : k ≤ (ny - 2)) (_ : (-1) < k) (_ : 1 ≤ j) (_ : j < nx) (_ : i ≤ (nz - 2)) (_ : (-1) < i) (_ : sgnvz = 0) (_ : sgnvx = 1) (_ : sgnvy = 0) (_ : sgntz = -1) (_ : sgntx = 1) (_ : sgnty = -1) (_ : i1 = (i - sgnvz)) (_ : j1 = (j - sgnvx)) (_ : k1 = (k - sgnvy)) :
    (0 ≤ (i - sgntz) ∧ (i - sgntz) < nz) ∧ (0 ≤ (j - sgntx) ∧ (j - sgntx) < nx) ∧ (0 ≤ k ∧ k < ny) := ⟨Idx.down_upwind, Idx.up_upwind, Idx.down⟩

theorem fteik3d_sweep_L71c10_ctx7 (i i1 j j1 k k1 nx ny nz sgntx sgnty sgntz sgnvx sgnvy sgnvz : Int) (_ : 2 ≤ nz) (_ : 2 ≤ nx) (_ : 2 ≤ ny) (_ : k ≤ (ny - 2)) (_ : (-1) < k) (_ : j ≤ (nx - 2)) (_ : (-1) < j) (_ : i ≤ (nz - 2)) (_ : (-1) < i) (_ : sgnvz = 0) (_ : sgnvx = 0) (_ : sgnvy = 0) (_ : sgntz = -1) (_ : sgntx = -1) (_ : sgnty = -1) (_ : i1 = (i - sgnvz)) (_ : j1 = (j - sgnvx)) (_ : k1 = (k - sgnvy)) :
    (0 ≤ (i - sgntz) ∧ (i - sgntz) < nz) ∧ (0 ≤ (j - sgntx) ∧ (j - sgntx) < nx) ∧ (0 ≤ k ∧ k < ny) := ⟨Idx.down_upwind, Idx.down_upwind, Idx.down⟩

theorem fteik3d_sweep_L72c10_ctx0 (i i1 j j1 k k1 nx ny nz sgntx sgnty sgntz sgnvx sgnvy sgnvz : Int) (_ : 2 ≤ nz) (_ : 2 ≤ nx) (_ : 2 ≤ ny) (_ : 1 ≤ k) (_ : k < ny) (_ : 1 ≤ j) (_ : j < nx) (_ : 1 ≤ i) (_ : i < nz) (_ : sgnvz = 1) (_ : sgnvx = 1) (_ : sgnvy = 1) (_ : sgntz = 1) (_ : sgntx = 1) (_ : sgnty = 1) (_ : i1 = (i - sgnvz)) (_ : j1 = (j - sgnvx)) (_ : k1 = (k - sgnvy)) :
    (0 ≤ i ∧ i < nz) ∧ (0 ≤ (j - sgntx) ∧ (j - sgntx) < nx) ∧ (0 ≤ (k - sgnty) ∧ (k - sgnty) < ny) := ⟨Idx.up, Idx.up_upwind, Idx.up_upwind⟩

theorem fteik3d_sweep_L72c10_ctx1 (i i1 j j1 k k1 nx ny nz sgntx sgnty sgntz sgnvx sgnvy sgnvz : Int) (_ : 2 ≤ nz) (_ : 2 ≤ nx) (_ : 2 ≤ ny) (_ : 1 ≤ k) (_ : k < ny) (_ : j ≤ (nx - 2)) (_ : (-1) < j) (_ : 1 ≤ i) (_ : i < nz) (_ : sgnvz = 1) (_ : sgnvx = 0) (_ : sgnvy = 1) (_ : sgntz = 1) (_ : sgntx = -1) (_ : sgnty = 1) (_ : i1 = (i - sgnvz)) (_ : j1 = (j - sgnvx)) (_ : k1 = (k - sgnvy)) :
    (0 ≤ i ∧ i < nz) ∧ (0 ≤ (j - sgntx) ∧ (j - sgntx) < nx) ∧ (0 ≤ (k - sgnty) ∧ (k - sgnty) < ny) := ⟨Idx.up, Idx.down_upwind, Idx.up_upwind⟩

theorem fteik3d_sweep_L72c10_ctx2 (i i1 j j1 k k1 nx ny nz sgntx sgnty sgntz sgnvx sgnvy sgnvz : Int) (_ : 2 ≤ nz) (_ : 2 ≤ nx) (_ : 2 ≤ ny) (_ : k ≤ (ny - 2)) (_ : (-1) < k) (_ : 1 ≤ j) (_ : j < nx) (_ : 1 ≤ i) (_ : i < nz) (_ : sgnvz = 1) (_ : sgnvx = 1) (_ : sgnvy = 0) (_ : sgntz = 1) (_ : sgntx = 1) (_ : sgnty = -1) (_ : i1 = (i - sgnvz)) (_ : j1 = (j - sgnvx)) (_ : k1 = (k - sgnvy)) :
    (0 ≤ i ∧ i < nz) ∧ (0 ≤ (j - sgntx) ∧ (j - sgntx) < nx) ∧ (0 ≤ (k - sgnty) ∧ (k - sgnty) < ny) := ⟨Idx.up, Idx.up_upwind, Idx.down_upwind⟩

theorem fteik3d_sweep_L72c10_ctx3 (i i1 j j1 k k1 nx ny nz sgntx sgnty sgntz sgnvx sgnvy sgnvz : Int) (_ : 2 ≤ nz) (_ : 2 ≤ nx) (_ : 2 ≤ ny) (_ : k ≤ (ny - 2)) (_ : (-1) < k) (_ : j ≤ (nx - 2)) (_ : (-1) < j) (_ : 1 ≤ i) (_ : i < nz) (_ : sgnvz = 1) (_ : sgnvx = 0) (_ : sgnvy = 0) (_ : sgntz = 1) (_ : sgntx = -1) (_ : sgnty = -1) (_ : i1 = (i - sgnvz)) (_ : j1 = (j - sgnvx)) (_ : k1 = (k - sgnvy)) :
    (0 ≤ i ∧ i < nz) ∧ (0 ≤ (j - sgntx) ∧ (j - sgntx) < nx) ∧ (0 ≤ (k - sgnty) ∧ (k - sgnty) < ny) := ⟨Idx.up, Idx.down_upwind, Idx.down_upwind⟩

theorem fteik3d_sweep_L72c10_ctx4 (i i1 j j1 k k1 nx ny nz sgntx sgnty sgntz sgnvx sgnvy sgnvz : Int) (_ : 2 ≤ nz) (_ : 2 ≤ nx) (_ : 2 ≤ ny) (_ : 1 ≤ k) (_ : k < ny) (_ : 1 ≤ j) (_ : j < nx) (_ : i ≤ (nz - 2)) (_ : (-1) < i) (_ : sgnvz = 0) (_ : sgnvx = 1) (_ : sgnvy = 1) (_ : sgntz = -1) (_ : sgntx = 1) (_ : sgnty = 1) (_ : i1 = (i - sgnvz)) (_ : j1 = (j - sgnvx)) (_ : k1 = (k - sgnvy)) :
    (0 ≤ i ∧ i < nz) ∧ (0 ≤ (j - sgntx) ∧ (j - sgntx) < nx) ∧ (0 ≤ (k - sgnty) ∧ (k - sgnty) < ny) := ⟨Idx.down, Idx.up_upwind, Idx.up_upwind⟩

theorem fteik3d_sweep_L72c10_ctx5 (i i1 j j1 k k1 nx ny nz sgntx sgnty sgntz sgnvx sgnvy sgnvz : Int) (_ : 2 ≤ nz) (_ : 2 ≤ nx) (_ : 2 ≤ ny) (_ : 1 ≤ k) (_ : k < ny) (_ : j ≤ (nx - 2)) (_ : (-1) < j) (_ : i ≤ (nz - 2)) (_ : (-1) < i) (_ : sgnvz = 0) (_ : sgnvx = 0) (_ : sgnvy = 1) (_ : sgntz = -1) (_ : sgntx = -1) (_ : sgnty = 1) (_ : i1 = (i - sgnvz)) (_ : j1 = (j - sgnvx)) (_ : k1 = (k - sgnvy)) :
    (0 ≤ i ∧ i < nz) ∧ (0 ≤ (j - sgntx) ∧ (j - sgntx) < nx) ∧ (0 ≤ (k - sgnty) ∧ (k - sgnty) < ny) := ⟨Idx.down, Idx.down_upwind, Idx.up_upwind⟩

theorem fteik3d_sweep_L72c10_ctx6 (i i1 j j1 k k1 nx ny nz sgntx sgnty sgntz sgnvx sgnvy sgnvz : Int) (_ : 2 ≤ nz) (_ : 2 ≤ nx) (_ : 2 ≤ ny) (_ : k ≤ (ny - 2)) (_ : (-1) < k) (_ : 1 ≤ j) (_ : j < nx) (_ : i ≤ (nz - 2)) (_ : (-1) < i) (_ : sgnvz = 0) (_ : sgnvx = 1) (_ : sgnvy = 0) (_ : sgntz = -1) (_ : sgntx = 1) (_ : sgnty = -1) (_ : i1 = (i - sgnvz)) (_ : j1 = (j - sgnvx)) (_ : k1 = (k - sgnvy)) :
    (0 ≤ i ∧ i < nz) ∧ (0 ≤ (j - sgntx) ∧ (j - sgntx) < nx) ∧ (0 ≤ (k - sgnty) ∧ (k - sgnty) < ny) := ⟨Idx.down, Idx.up_upwind, Idx.down_upwind⟩

theorem fteik3d_sweep_L72c10_ctx7 (i i1 j j1 k k1 nx ny nz sgntx sgnty sgntz sgnvx sgnvy sgnvz : Int) (_ : 2 ≤ nz) (_ : 2 ≤ nx) (_ : 2 ≤ ny) (_ : k ≤ (ny - 2)) (_ : (-1) < k) (_ : j ≤ (nx - 2)) (_ : (-1) < j) (_ : i ≤ (nz - 2)) (_ : (-1) < i) (_ : sgnvz = 0) (_ : sgnvx = 0) (_ : sgnvy = 0) (_ : sgntz = -1) (_ : sgntx = -1) (_ : sgnty = -1) (_ : i1 = (i - sgnvz)) (_ : j1 = (j - sgnvx)) (_ : k1 = (k - sgnvy)) :
    (0 ≤ i ∧ i < nz) ∧ (0 ≤ (j - sgntx) ∧ (j - sgntx) < nx) ∧ (0 ≤ (k - sgnty) ∧ (k - sgnty) < ny) := ⟨Idx.down, Idx.down_upwind, Idx.down_upwind⟩

theorem fteik3d_sweep_L73c10_ctx0 (i i1 j j1 k k1 nx ny nz sgntx sgnty sgntz sgnvx sgnvy sgnvz : Int) (_ : 2 ≤ nz) (_ : 2 ≤ nx) (_ : 2 ≤ ny) (_ : 1 ≤ k) (_ : k < ny) (_ : 1 ≤ j) (_ : j < nx) (_ : 1 ≤ i) (_ : i < nz) (_ : sgnvz = 1) (_ : sgnvx = 1) (_ : sgnvy = 1) (_ : sgntz = 1) (_ : sgntx = 1) (_ : sgnty = 1) (_ : i1 = (i - sgnvz)) (_ : j1 = (j - sgnvx)) (_ : k1 = (k - sgnvy)) :
    (0 ≤ (i - sgntz) ∧ (i - sgntz) < nz) ∧ (0 ≤ j ∧ j < nx) ∧ (0 ≤ (k - sgnty) ∧ (k - sgnty) < ny) := ⟨Idx.up_upwind, Idx.up, Idx.up_upwind⟩

theorem fteik3d_sweep_L73c10_ctx1 (i i1 j j1 k k1 nx ny nz sgntx sgnty sgntz sgnvx sgnvy sgnvz : Int) (_ : 2 ≤ nz) (_ : 2 ≤ nx) (_ : 2 ≤ ny) (_ : 1 ≤ k) (_ : k < ny) (_ : j ≤ (nx - 2)) (_ : (-1) < j) (_ : 1 ≤ i) (_ : i < nz) (_ : sgnvz = 1) (_ : sgnvx = 0) (_ : sgnvy = 1) (_ : sgntz = 1) (_ : sgntx = -1) (_ : sgnty = 1) (_ : i1 = (i - sgnvz)) (_ : j1 = (j - sgnvx)) (_ : k1 = (k - sgnvy)) :
    (0 ≤ (i - sgntz) ∧ (i - sgntz) < nz) ∧ (0 ≤ j ∧ j < nx) ∧ (0 ≤ (k - sgnty) ∧ (k - sgnty) < ny) := ⟨Idx.up_upwind, Idx.down, Idx.up_upwind⟩

theorem fteik3d_sweep_L73c10_ctx2 (i i1 j j1 k k1 nx ny nz sgntx sgnty sgntz sgnvx sgnvy sgnvz : Int) (_ : 2 ≤ nz) (_ : 2 ≤ nx) (_ : 2 ≤ ny) (_ : k ≤ (ny - 2)) (_ : (-1) < k) (_ : 1 ≤ j) (_ : j < nx) (_ : 1 ≤ i) (_ : i < nz) (_ : sgnvz = 1) (_ : sgnvx = 1) (_ : sgnvy = 0) (_ : sgntz = 1) (_ : sgntx = 1) (_ : sgnty = -1) (_ : i1 = (i - sgnvz)) (_ : j1 = (j - sgnvx)) (_ : k1 = (k - sgnvy)) :
    (0 ≤ (i - sgntz) ∧ (i - sgntz) < nz) ∧ (0 ≤ j ∧ j < nx) ∧ (0 ≤ (k - sgnty) ∧ (k - sgnty) < ny) := ⟨Idx.up_upwind, Idx.up, Idx.down_upwind⟩

theorem fteik3d_sweep_L73c10_ctx3 (i i1 j j1 k k1 nx ny nz sgntx sgnty sgntz sgnvx sgnvy sgnvz : Int) (_ : 2 ≤ nz) (_ : 2 ≤ nx) (_ : 2 ≤ ny) (_ : k ≤ (ny - 2)) (_ : (-1) < k) (_ : j ≤ (nx - 2)) (_ : (-1) < j) (_ : 1 ≤ i) (_ : i < nz) (_ : sgnvz = 1) (_ : sgnvx = 0) (_ : sgnvy = 0) (_ : sgntz = 1) (_ : sgntx = -1) (_ : sgnty = -1) (_ : i1 = (i - sgnvz)) (_ : j1 = (j - sgnvx)) (_ : k1 = (k - sgnvy)) :
    (0 ≤ (i - sgntz) ∧ (i - sgntz) < nz) ∧ (0 ≤ j ∧ j < nx) ∧ (0 ≤ (k - sgnty) ∧ (k - sgnty) < ny) := ⟨Idx.up_upwind, Idx.down, Idx.down_upwind⟩

theorem fteik3d_sweep_L73c10_ctx4 (i i1 j j1 k k1 nx ny nz sgntx sgnty sgntz sgnvx sgnvy sgnvz : Int) (_ : 2 ≤ nz) (_ : 2 ≤ nx) (_ : 2 ≤ ny) (_ : 1 ≤ k) (_ : k < ny) (_ : 1 ≤ j) (_ : j < nx) (_ : i ≤ (nz - 2)) (_ : (-1) < i) (_ : sgnvz = 0) (_ : sgnvx = 1) (_ : sgnvy = 1) (_ : sgntz = -1) (_ : sgntx = 1) (_ : sgnty = 1) (_ : i1 = (i - sgnvz)) (_ : j1 = (j - sgnvx)) (_ : k1 = (k - sgnvy)) :
    (0 ≤ (i - sgntz) ∧ (i - sgntz) < nz) ∧ (0 ≤ j ∧ j < nx) ∧ (0 ≤ (k - sgnty) ∧ (k - sgnty) < ny) := ⟨Idx.down_upwind, Idx.up, Idx.up_upwind⟩

theorem fteik3d_sweep_L73c10_ctx5 (i i1 j j1 k k1 nx ny nz sgntx sgnty sgntz sgnvx sgnvy sgnvz : Int) (_ : 2 ≤ nz) (_ : 2 ≤ nx) (_ : 2 ≤ ny) (_ : 1 ≤ k) (_ : k < ny) (_ : j ≤ (nx - 2)) (_ : (-1) < j) (_ : i ≤ (nz - 2)) (_ : (-1) < i) (_ : sgnvz = 0) (_ : sgnvx = 0) (_ : sgnvy = 1) (_ : sgntz = -1) (_ : sgntx = -1) (_ : sgnty = 1) (_ : i1 = (i - sgnvz)) (_ : j1 = (j - sgnvx)) (_ : k1 = (k - sgnvy)) :
    (0 ≤ (i - sgntz) ∧ (i - sgntz) < nz) ∧ (0 ≤ j ∧ j < nx) ∧ (0 ≤ (k - sgnty) ∧ (k - sgnty) < ny) := ⟨Idx.down_upwind, Idx.down, Idx.up_upwind⟩

theorem fteik3d_sweep_L73c10_ctx6 (i i1 j j1 k k1 nx ny nz sgntx sgnty sgntz sgnvx sgnvy sgnvz : Int) (_ : 2 ≤ nz) (_ : 2 ≤ nx) (_ : 2 ≤ ny) (_ : k ≤ (ny - 2)) (_ : (-1) < k) (_ : 1 ≤ j) (_ : j < nx) (_ : i ≤ (nz - 2)) (_ : (-1) < i) (_ : sgnvz = 0) (_ : sgnvx = 1) (_ : sgnvy = 0) (_ : sgntz = -1) (_ : sgntx = 1) (_ : sgnty = -1) (_ : i1 = (i - sgnvz)) (_ : j1 = (j - sgnvx)) (_ : k1 = (k - sgnvy)) :
    (0 ≤ (i - sgntz) ∧ (i - sgntz) < nz) ∧ (0 ≤ j ∧ j < nx) ∧ (0 ≤ (k - sgnty) ∧ (k - sgnty) < ny) := ⟨Idx.down_upwind, Idx.up, Idx.down_upwind⟩

theorem fteik3d_sweep_L73c10_ctx7 (i i1 j j1 k k1 nx ny nz sgntx sgnty sgntz sgnvx sgnvy sgnvz : Int) (_ : 2 ≤ nz) (_ : 2 ≤ nx) (_ : 2 ≤ ny) (_ : k ≤ (ny - 2)) (_ : (-1) < k) (_ : j ≤ (nx - 2)) (_ : (-1) < j) (_ : i ≤ (nz - 2)) (_ : (-1) < i) (_ : sgnvz = 0) (_ : sgnvx = 0) (_ : sgnvy = 0) (_ : sgntz = -1) (_ : sgntx = -1) (_ : sgnty = -1) (_ : i1 = (i - sgnvz)) (_ : j1 = (j - sgnvx)) (_ : k1 = (k - sgnvy)) :
    (0 ≤ (i - sgntz) ∧ (i - sgntz) < nz) ∧ (0 ≤ j ∧ j < nx) ∧ (0 ≤ (k - sgnty) ∧ (k - sgnty) < ny) := ⟨Idx.down_upwind, Idx.down, Idx.down_upwind⟩

theorem fteik3d_sweep_L74c11_ctx0 (i i1 j j1 k k1 nx ny nz sgntx sgnty sgntz sgnvx sgnvy sgnvz : Int) (_ : 2 ≤ nz) (_ : 2 ≤ nx) (_ : 2 ≤ ny) (_ : 1 ≤ k) (_ : k < ny) (_ : 1 ≤ j) (_ : j < nx) (_ : 1 ≤ i) (_ : i < nz) (_ : sgnvz = 1) (_ : sgnvx = 1) (_ : sgnvy = 1) (_ : sgntz = 1) (_ : sgntx = 1) (_ : sgnty = 1) (_ : i1 = (i - sgnvz)) (_ : j1 = (j - sgnvx)) (_ : k1 = (k - sgnvy)) :
    (0 ≤ (i - sgntz) ∧ (i - sgntz) < nz) ∧ (0 ≤ (j - sgntx) ∧ (j - sgntx) < nx) ∧ (0 ≤ (k - sgnty) ∧ (k - sgnty) < ny) := ⟨Idx.up_upwind, Idx.up_upwind, Idx.up_upwind⟩

theorem fteik3d_sweep_L74c11_ctx1 (i i1 j j1 k k1 nx ny nz sgntx sgnty sgntz sgnvx sgnvy sgnvz : Int) (_ : 2 ≤ nz) (_ : 2 ≤ nx) (_ : 2 ≤ ny) (_ : 1 ≤ k) (_ : k < ny) (_ : j ≤ (nx - 2)) (_ : (-1) < j) (_ : 1 ≤ i) (_ : i < nz) (_ : sgnvz = 1) (_ : sgnvx = 0) (_ : sgnvy = 1) (_ : sgntz = 1) (_ : sgntx = -1) (_ : sgnty = 1) (_ : i1 = (i - sgnvz)) (_ : j1 = (j - sgnvx)) (_ : k1 = (k - sgnvy)) :
    (0 ≤ (i - sgntz) ∧ (i - sgntz) < nz) ∧ (0 ≤ (j - sgntx) ∧ (j - sgntx) < nx) ∧ (0 ≤ (k - sgnty) ∧ (k - sgnty) < ny) := ⟨Idx.up_upwind, Idx.down_upwind, Idx.up_upwind⟩

theorem fteik3d_sweep_L74c11_ctx2 (i i1 j j1 k k1 nx ny nz sgntx sgnty sgntz sgnvx sgnvy sgnvz : Int) (_ : 2 ≤ nz) (_ : 2 ≤ nx) (_ : 2 ≤ ny) (_ : k ≤ (ny - 2)) (_ : (-1) < k) (_ : 1 ≤ j) (_ : j < nx) (_ : 1 ≤ i) (_ : i < nz) (_ : sgnvz = 1) (_ : sgnvx = 1) (_ : sgnvy = 0) (_ : sgntz = 1) (_ : sgntx = 1) (_ : sgnty = -1) (_ : i1 = (i - sgnvz)) (_ : j1 = (j - sgnvx)) (_ : k1 = (k - sgnvy)) :
    (0 ≤ (i - sgntz) ∧ (i - sgntz) < nz) ∧ (0 ≤ (j - sgntx) ∧ (j - sgntx) < nx) ∧ (0 ≤ (k - sgnty) ∧ (k - sgnty) < ny) := ⟨Idx.up_upwind, Idx.up_upwind, Idx.down_upwind⟩

theorem fteik3d_sweep_L74c11_ctx3 (i i1 j j1 k k1 nx ny nz sgntx sgnty sgntz sgnvx sgnvy sgnvz : Int) (_ : 2 ≤ nz) (_ : 2 ≤ nx) (_ : 2 ≤ ny) (_ : k ≤ (ny - 2)) (_ : (-1) < k) (_ : j ≤ (nx - 2)) (_ : (-1) < j) (_ : 1 ≤ i) (_ : i < nz) (_ : sgnvz = 1) (_ : sgnvx = 0) (_ : sgnvy = 0) (_ : sgntz = 1) (_ : sgntx = -1) (_ : sgnty = -1) (_ : i1 = (i - sgnvz)) (_ : j1 = (j - sgnvx)) (_ : k1 = (k - sgnvy)) :
    (0 ≤ (i - sgntz) ∧ (i - sgntz) < nz) ∧ (0 ≤ (j - sgntx) ∧ (j - sgntx) < nx) ∧ (0 ≤ (k - sgnty) ∧ (k - sgnty) < ny) := ⟨Idx.up_upwind, Idx.down_upwind, Idx.down_upwind⟩

theorem fteik3d_sweep_L74c11_ctx4 (i i1 j j1 k k1 nx ny nz sgntx sgnty sgntz sgnvx sgnvy sgnvz : Int) (_ : 2 ≤ nz) (_ : 2 ≤ nx) (_ : 2 ≤ ny) (_ : 1 ≤ k) (_ : k < ny) (_ : 1 ≤ j) (_ : j < nx) (_ : i ≤ (nz - 2)) (_ : (-1) < i) (_ : sgnvz = 0) (_ : sgnvx = 1) (_ : sgnvy = 1) (_ : sgntz = -1) (_ : sgntx = 1) (_ : sgnty = 1) (_ : i1 = (i - sgnvz)) (_ : j1 = (j - sgnvx)) (_ : k1 = (k - sgnvy)) :
    (0 ≤ (i - sgntz) ∧ (i - sgntz) < nz) ∧ (0 ≤ (j - sgntx) ∧ (j - sgntx) < nx) ∧ (0 ≤ (k - sgnty) ∧ (k - sgnty) < ny) := ⟨Idx.down_upwind, Idx.up_upwind, Idx.up_upwind⟩

theorem fteik3d_sweep_L74c11_ctx5 (i i1 j j1 k k1 nx ny nz sgntx sgnty sgntz sgnvx sgnvy sgnvz : Int) (_ : 2 ≤ nz) (_ : 2 ≤ nx) (_ : 2 ≤ ny) (_ : 1 ≤ k) (_ : k < ny) (_ : j ≤ (nx - 2)) (_ : (-1) < j) (_ : i ≤ (nz - 2)) (_ : (-1) < i) (_ : sgnvz = 0) (_ : sgnvx = 0) (_ : sgnvy = 1) (_ : sgntz = -1) (_ : sgntx = -1) (_ : sgnty = 1) (_ : i1 = (i - sgnvz)) (_ : j1 = (j - sgnvx)) (_ : k1 = (k - sgnvy)) :
    (0 ≤ (i - sgntz) ∧ (i - sgntz) < nz) ∧ (0 ≤ (j - sgntx) ∧ (j - sgntx) < nx) ∧ (0 ≤ (k - sgnty) ∧ (k - sgnty) < ny) := ⟨Idx.down_upwind, Idx.down_upwind, Idx.up_upwind⟩

theorem fteik3d_sweep_L74c11_ctx6 (i i1 j j1 k k1 nx ny nz sgntx sgnty sgntz sgnvx sgnvy sgnvz : Int) (_ : 2 ≤ nz) (_ : 2 ≤ nx) (_ : 2 ≤ ny) (_ : k ≤ (ny - 2)) (_ : (-1) < k) (_ : 1 ≤ j) (_ : j < nx) (_ : i ≤ (nz - 2)) (_ : (-1) < i) (_ : sgnvz = 0) (_ : sgnvx = 1) (_ : sgnvy = 0) (_ : sgntz = -1) (_ : sgntx = 1) (_ : sgnty = -1) (_ : i1 = (i - sgnvz)) (_ : j1 = (j - sgnvx)) (_ : k1 = (k - sgnvy)) :
    (0 ≤ (i - sgntz) ∧ (i - sgntz) < nz) ∧ (0 ≤ (j - sgntx) ∧ (j - sgntx) < nx) ∧ (0 ≤ (k - sgnty) ∧ (k - sgnty) < ny) := ⟨Idx.down_upwind, Idx.up_upwind, Idx.down_upwind⟩

theorem fteik3d_sweep_L74c11_ctx7 (i i1 j j1 k k1 nx ny nz sgntx sgnty sgntz sgnvx sgnvy sgnvz : Int) (_ : 2 ≤ nz) (_ : 2 ≤ nx) (_ : 2 ≤ ny) (_ : k ≤ (ny - 2)) (_ : (-1) < k) (_ : j ≤ (nx - 2)) (_ : (-1) < j) (_ : i ≤ (nz - 2)) (_ : (-1) < i) (_ : sgnvz = 0) (_ : sgnvx = 0) (_ : sgnvy = 0) (_ : sgntz = -1) (_ : sgntx = -1) (_ : sgnty = -1) (_ : i1 = (i - sgnvz)) (_ : j1 = (j - sgnvx)) (_ : k1 = (k - sgnvy)) :
    (0 ≤ (i - sgntz) ∧ (i - sgntz) < nz) ∧ (0 ≤ (j - sgntx) ∧ (j - sgntx) < nx) ∧ (0 ≤ (k - sgnty) ∧ (k - sgnty) < ny) := ⟨Idx.down_upwind, Idx.down_upwind, Idx.down_upwind⟩

theorem fteik3d_sweep_L79c8_ctx0 (i i1 j j1 k k1 nx ny nz sgntx sgnty sgntz sgnvx sgnvy sgnvz : Int) (_ : 2 ≤ nz) (_ : 2 ≤ nx) (_ : 2 ≤ ny) (_ : 1 ≤ k) (_ : k < ny) (_ : 1 ≤ j) (_ : j < nx) (_ : 1 ≤ i) (_ : i < nz) (_ : sgnvz = 1) (_ : sgnvx = 1) (_ : sgnvy = 1) (_ : sgntz = 1) (_ : sgntx = 1) (_ : sgnty = 1) (_ : i1 = (i - sgnvz)) (_ : j1 = (j - sgnvx)) (_ : k1 = (k - sgnvy)) :
    (0 ≤ i1 ∧ i1 < (nz - 1)) ∧ (0 ≤ (max (j - 1) 0) ∧ (max (j - 1) 0) < (nx - 1)) ∧ (0 ≤ (max (k - 1) 0) ∧ (max (k - 1) 0) < (ny - 1)) := ⟨Idx.up_cell, Idx.up_cellBelow, Idx.up_cellBelow⟩

theorem fteik3d_sweep_L79c8_ctx1 (i i1 j j1 k k1 nx ny nz sgntx sgnty sgntz sgnvx sgnvy sgnvz : Int) (_ : 2 ≤ nz) (_ : 2 ≤ nx) (_ : 2 ≤ ny) (_ : 1 ≤ k) (_ : k < ny) (_ : j ≤ (nx - 2)) (_ : (-1) < j) (_ : 1 ≤ i) (_ : i < nz) (_ : sgnvz = 1) (_ : sgnvx = 0) (_ : sgnvy = 1) (_ : sgntz = 1) (_ : sgntx = -1) (_ : sgnty = 1) (_ : i1 = (i - sgnvz)) (_ : j1 = (j - sgnvx)) (_ : k1 = (k - sgnvy)) :
    (0 ≤ i1 ∧ i1 < (nz - 1)) ∧ (0 ≤ (max (j - 1) 0) ∧ (max (j - 1) 0) < (nx - 1)) ∧ (0 ≤ (max (k - 1) 0) ∧ (max (k - 1) 0) < (ny - 1)) := ⟨Idx.up_cell, Idx.down_cellBelow, Idx.up_cellBelow⟩

theorem fteik3d_sweep_L79c8_ctx2 (i i1 j j1 k k1 nx ny nz sgntx sgnty sgntz sgnvx sgnvy sgnvz : Int) (_ : 2 ≤ nz) (_ : 2 ≤ nx) (_ : 2 ≤ ny) (_ : k ≤ (ny - 2)) (_ : (-1) < k) (_ : 1 ≤ j) (_ : j < nx) (_ : 1 ≤ i) (_ : i < nz) (_ : sgnvz = 1) (_ : sgnvx = 1) (_ : sgnvy = 0) (_ : sgntz = 1) (_ : sgntx = 1) (_ : sgnty = -1) (_ : i1 = (i - sgnvz)) (_ : j1 = (j - sgnvx)) (_ : k1 = (k - sgnvy)) :
    (0 ≤ i1 ∧ i1 < (nz - 1)) ∧ (0 ≤ (max (j - 1) 0) ∧ (max (j - 1) 0) < (nx - 1)) ∧ (0 ≤ (max (k - 1) 0) ∧ (max (k - 1) 0) < (ny - 1)) := ⟨Idx.up_cell, Idx.up_cellBelow, Idx.down_cellBelow⟩

theorem fteik3d_sweep_L79c8_ctx3 (i i1 j j1 k k1 nx ny nz sgntx sgnty sgntz sgnvx sgnvy sgnvz : Int) (_ : 2 ≤ nz) (_ : 2 ≤ nx) (_ : 2 ≤ ny) (_ : k ≤ (ny - 2)) (_ : (-1) < k) (_ : j ≤ (nx - 2)) (_ : (-1) < j) (_ : 1 ≤ i) (_ : i < nz) (_ : sgnvz = 1) (_ : sgnvx = 0) (_ : sgnvy = 0) (_ : sgntz = 1) (_ : sgntx = -1) (_ : sgnty = -1) (_ : i1 = (i - sgnvz)) (_ : j1 = (j - sgnvx)) (_ : k1 = (k - sgnvy)) :
    (0 ≤ i1 ∧ i1 < (nz - 1)) ∧ (0 ≤ (max (j - 1) 0) ∧ (max (j - 1) 0) < (nx - 1)) ∧ (0 ≤ (max (k - 1) 0) ∧ (max (k - 1) 0) < (ny - 1)) := ⟨Idx.up_cell, Idx.down_cellBelow, Idx.down_cellBelow⟩

theorem fteik3d_sweep_L79c8_ctx4 (i i1 j j1 k k1 nx ny nz sgntx sgnty sgntz sgnvx sgnvy sgnvz : Int) (_ : 2 ≤ nz) (_ : 2 ≤ nx) (_ : 2 ≤ ny) (_ : 1 ≤ k) (_ : k < ny) (_ : 1 ≤ j) (_ : j < nx) (_ : i ≤ (nz - 2)) (_ : (-1) < i) (_ : sgnvz = 0) (_ : sgnvx = 1) (_ : sgnvy = 1) (_ : sgntz = -1) (_ : sgntx = 1) (_ : sgnty = 1) (_ : i1 = (i - sgnvz)) (_ : j1 = (j - sgnvx)) (_ : k1 = (k - sgnvy)) :
    (0 ≤ i1 ∧ i1 < (nz - 1)) ∧ (0 ≤ (max (j - 1) 0) ∧ (max (j - 1) 0) < (nx - 1)) ∧ (0 ≤ (max (k - 1) 0) ∧ (max (k - 1) 0) < (ny - 1)) := ⟨Idx.down_cell, Idx.up_cellBelow, Idx.up_cellBelow⟩

theorem fteik3d_sweep_L79c8_ctx5 (i i1 j j1 k k1 nx ny nz sgntx sgnty sgntz sgnvx sgnvy sgnvz : Int) (_ : 2 ≤ nz) (_ : 2 ≤ nx) (_ : 2 ≤ ny) (_ : 1 ≤ k) (_ : k < ny) (_ : j ≤ (nx - 2)) (_ : (-1) < j) (_ : i ≤ (nz - 2)) (_ : (-1) < i) (_ : sgnvz = 0) (_ : sgnvx = 0) (_ : sgnvy = 1) (_ : sgntz = -1) (_ : sgntx = -1) (_ : sgnty = 1) (_ : i1 = (i - sgnvz)) (_ : j1 = (j - sgnvx)) (_ : k1 = (k - sgnvy)) :
    (0 ≤ i1 ∧ i1 < (nz - 1)) ∧ (0 ≤ (max (j - 1) 0) ∧ (max (j - 1) 0) < (nx - 1)) ∧ (0 ≤ (max (k - 1) 0) ∧ (max (k - 1) 0) < (ny - 1)) := ⟨Idx.down_cell, Idx.down_cellBelow, Idx.up_cellBelow⟩

theorem fteik3d_sweep_L79c8_ctx6 (i i1 j j1 k k1 nx ny nz sgntx sgnty sgntz sgnvx sgnvy sgnvz : Int) (_ : 2 ≤ nz) (_ : 2 ≤ nx) (_ : 2 ≤ ny) (_ : k ≤ (ny - 2)) (_ : (-1) < k) (_ : 1 ≤ j) (_ : j < nx) (_ : i ≤ (nz - 2)) (_ : (-1) < i) (_ : sgnvz = 0) (_ : sgnvx = 1) (_ : sgnvy = 0) (_ : sgntz = -1) (_ : sgntx = 1) (_ : sgnty = -1) (_ : i1 = (i - sgnvz)) (_ : j1 = (j - sgnvx)) (_ : k1 = (k - sgnvy)) :
    (0 ≤ i1 ∧ i1 < (nz - 1)) ∧ (0 ≤ (max (j - 1) 0) ∧ (max (j - 1) 0) < (nx - 1)) ∧ (0 ≤ (max (k - 1) 0) ∧ (max (k - 1) 0) < (ny - 1)) := ⟨Idx.down_cell, Idx.up_cellBelow, Idx.down_cellBelow⟩

theorem fteik3d_sweep_L79c8_ctx7 (i i1 j j1 k k1 nx ny nz sgntx sgnty sgntz sgnvx sgnvy sgnvz : Int) (_ : 2 ≤ nz) (_ : 2 ≤ nx) (_ : 2 ≤ ny) (_ : k ≤ (ny - 2)) (_ : (-1) < k) (_ : j ≤ (nx - 2)) (_ : (-1) < j) (_ : i ≤ (nz - 2)) (_ : (-1) < i) (_ : sgnvz = 0) (_ : sgnvx = 0) (_ : sgnvy = 0) (_ : sgntz = -1) (_ : sgntx = -1) (_ : sgnty = -1) (_ : i1 = (i - sgnvz)) (_ : j1 = (j - sgnvx)) (_ : k1 = (k - sgnvy)) :
    (0 ≤ i1 ∧ i1 < (nz - 1)) ∧ (0 ≤ (max (j - 1) 0) ∧ (max (j - 1) 0) < (nx - 1)) ∧ (0 ≤ (max (k - 1) 0) ∧ (max (k - 1) 0) < (ny - 1)) := ⟨Idx.down_cell, Idx.down_cellBelow, Idx.down_cellBelow⟩

theorem fteik3d_sweep_L80c8_ctx0 (i i1 j j1 k k1 nx ny nz sgntx sgnty sgntz sgnvx sgnvy sgnvz : Int) (_ : 2 ≤ nz) (_ : 2 ≤ nx) (_ : 2 ≤ ny) (_ : 1 ≤ k) (_ : k < ny) (_ : 1 ≤ j) (_ : j < nx) (_ : 1 ≤ i) (_ : i < nz) (_ : sgnvz = 1) (_ : sgnvx = 1) (_ : sgnvy = 1) (_ : sgntz = 1) (_ : sgntx = 1) (_ : sgnty = 1) (_ : i1 = (i - sgnvz)) (_ : j1 = (j - sgnvx)) (_ : k1 = (k - sgnvy)) :
    (0 ≤ i1 ∧ i1 < (nz - 1)) ∧ (0 ≤ (max (j - 1) 0) ∧ (max (j - 1) 0) < (nx - 1)) ∧ (0 ≤ (min k (ny - 2)) ∧ (min k (ny - 2)) < (ny - 1)) := ⟨Idx.up_cell, Idx.up_cellBelow, Idx.up_cellAbove⟩

theorem fteik3d_sweep_L80c8_ctx1 (i i1 j j1 k k1 nx ny nz sgntx sgnty sgntz sgnvx sgnvy sgnvz : Int) (_ : 2 ≤ nz) (_ : 2 ≤ nx) (_ : 2 ≤ ny) (_ : 1 ≤ k) (_ : k < ny) (_ : j ≤ (nx - 2)) (_ : (-1) < j) (_ : 1 ≤ i) (_ : i < nz) (_ : sgnvz = 1) (_ : sgnvx = 0) (_ : sgnvy = 1) (_ : sgntz = 1) (_ : sgntx = -1) (_ : sgnty = 1) (_ : i1 = (i - sgnvz)) (_ : j1 = (j - sgnvx)) (_ : k1 = (k - sgnvy)) :
    (0 ≤ i1 ∧ i1 < (nz - 1)) ∧ (0 ≤ (max (j - 1) 0) ∧ (max (j - 1) 0) < (nx - 1)) ∧ (0 ≤ (min k (ny - 2)) ∧ (min k (ny - 2)) < (ny - 1)) := ⟨Idx.up_cell, Idx.down_cellBelow, Idx.up_cellAbove⟩

theorem fteik3d_sweep_L80c8_ctx2 (i i1 j j1 k k1 nx ny nz sgntx sgnty sgntz sgnvx sgnvy sgnvz : Int) (_ : 2 ≤ nz) (_ : 2 ≤ nx) (_ : 2 ≤ ny) (_ : k ≤ (ny - 2)) (_ : (-1) < k) (_ : 1 ≤ j) (_ : j < nx) (_ : 1 ≤ i) (_ : i < nz) (_ : sgnvz = 1) (_ : sgnvx = 1) (_ : sgnvy = 0) (_ : sgntz = 1) (_ : sgntx = 1) (_ : sgnty = -1) (_ : i1 = (i - sgnvz)) (_ : j1 = (j - sgnvx)) (_ : k1 = (k - sgnvy)) :
    (0 ≤ i1 ∧ i1 < (nz - 1)) ∧ (0 ≤ (max (j - 1) 0) ∧ (max (j - 1) 0) < (nx - 1)) ∧ (0 ≤ (min k (ny - 2)) ∧ (min k (ny - 2)) < (ny - 1)) := ⟨Idx.up_cell, Idx.up_cellBelow, Idx.down_cellAbove⟩

theorem fteik3d_sweep_L80c8_ctx3 (i i1 j j1 k k1 nx ny nz sgntx sgnty sgntz sgnvx sgnvy sgnvz : Int) (_ : 2 ≤ nz) (_ : 2 ≤ nx) (_ : 2 ≤ ny) (_ : k ≤ (ny - 2)) (_ : (-1) < k) (_ : j ≤ (nx - 2)) (_ : (-1) < j) (_ : 1 ≤ i) (_ : i < nz) (_ : sgnvz = 1) (_ : sgnvx = 0) (_ : sgnvy = 0) (_ : sgntz = 1) (_ : sgntx = -1) (_ : sgnty = -1) (_ : i1 = (i - sgnvz)) (_ : j1 = (j - sgnvx)) (_ : k1 = (k - sgnvy)) :
    (0 ≤ i1 ∧ i1 < (nz - 1)) ∧ (0 ≤ (max (j - 1) 0) ∧ (max (j - 1) 0) < (nx - 1)) ∧ (0 ≤ (min k (ny - 2)) ∧ (min k (ny - 2)) < (ny - 1)) := ⟨Idx.up_cell, Idx.down_cellBelow, Idx.down_cellAbove⟩

theorem fteik3d_sweep_L80c8_ctx4 (i i1 j j1 k k1 nx ny nz sgntx sgnty sgntz sgnvx sgnvy sgnvz : Int) (_ : 2 ≤ nz) (_ : 2 ≤ nx) (_ : 2 ≤ ny) (_ : 1 ≤ k) (_ : k < ny) (_ : 1 ≤ j) (_ : j < nx) (_ : i ≤ (nz - 2)) (_ : (-1) < i) (_ : sgnvz = 0) (_ : sgnvx = 1) (_ : sgnvy = 1) (_ : sgntz = -1) (_ : sgntx = 1) (_ : sgnty = 1) (_ : i1 = (i - sgnvz)) (_ : j1 = (j - sgnvx)) (_ : k1 = (k - sgnvy)) :
    (0 ≤ i1 ∧ i1 < (nz - 1)) ∧ (0 ≤ (max (j - 1) 0) ∧ (max (j - 1) 0) < (nx - 1)) ∧ (0 ≤ (min k (ny - 2)) ∧ (min k (ny - 2)) < (ny - 1)) := ⟨Idx.down_cell, Idx.up_cellBelow, Idx.up_cellAbove⟩

theorem fteik3d_sweep_L80c8_ctx5 (i i1 j j1 k k1 nx ny nz sgntx sgnty sgntz sgnvx sgnvy sgnvz : Int) (_ : 2 ≤ nz) (_ : 2 ≤ nx) (_ : 2 ≤ ny) (_ : 1 ≤ k) (_ : k < ny) (_ : j ≤ (nx - 2)) (_ : (-1) < j) (_ : i ≤ (nz - 2)) (_ : (-1) < i) (_ : sgnvz = 0) (_ : sgnvx = 0) (_ : sgnvy = 1) (_ : sgntz = -1) (_ : sgntx = -1) (_ : sgnty = 1) (_ : i1 = (i - sgnvz)) (_ : j1 = (j - sgnvx)) (_ : k1 = (k - sgnvy)) :
    (0 ≤ i1 ∧ i1 < (nz - 1)) ∧ (0 ≤ (max (j - 1) 0) ∧ (max (j - 1) 0) < (nx - 1)) ∧ (0 ≤ (min k (ny - 2)) ∧ (min k (ny - 2)) < (ny - 1)) := ⟨Idx.down_cell, Idx.down_cellBelow, Idx.up_cellAbove⟩

theorem fteik3d_sweep_L80c8_ctx6 (i i1 j j1 k k1 nx ny nz sgntx sgnty sgntz sgnvx sgnvy sgnvz : Int) (_ : 2 ≤ nz) (_ : 2 ≤ nx) (_ : 2 ≤ ny) (_ : k ≤ (ny - 2)) (_ : (-1) < k) (_ : 1 ≤ j) (_ : j < nx) (_ : i ≤ (nz - 2)) (_ : (-1) < i) (_ : sgnvz = 0) (_ : sgnvx = 1) (_ : sgnvy = 0) (_ : sgntz = -1) (_ : sgntx = 1) (_ : sgnty = -1) (_ : i1 = (i - sgnvz)) (_ : j1 = (j - sgnvx)) (_ : k1 = (k - sgnvy)) :
    (0 ≤ i1 ∧ i1 < (nz - 1)) ∧ (0 ≤ (max (j - 1) 0) ∧ (max (j - 1) 0) < (nx - 1)) ∧ (0 ≤ (min k (ny - 2)) ∧ (min k (ny - 2)) < (ny - 1)) := ⟨Idx.down_cell, Idx.up_cellBelow, Idx.down_cellAbove⟩

theorem fteik3d_sweep_L80c8_ctx7 (i i1 j j1 k k1 nx ny nz sgntx sgnty sgntz sgnvx sgnvy sgnvz : Int) (_ : 2 ≤ nz) (_ : 2 ≤ nx) (_ : 2 ≤ ny) (_ : k ≤ (ny - 2)) (_ : (-1) < k) (_ : j ≤ (nx - 2)) (_ : (-1) < j) (_ : i ≤ (nz - 2)) (_ : (-1) < i) (_ : sgnvz = 0) (_ : sgnvx = 0) (_ : sgnvy = 0) (_ : sgntz = -1) (_ : sgntx = -1) (_ : sgnty = -1) (_ : i1 = (i - sgnvz)) (_ : j1 = (j - sgnvx)) (_ : k1 = (k - sgnvy)) :
    (0 ≤ i1 ∧ i1 < (nz - 1)) ∧ (0 ≤ (max (j - 1) 0) ∧ (max (j - 1) 0) < (nx - 1)) ∧ (0 ≤ (min k (ny - 2)) ∧ (min k (ny - 2)) < (ny - 1)) := ⟨Idx.down_cell, Idx.down_cellBelow, Idx.down_cellAbove⟩

theorem fteik3d_sweep_L81c8_ctx0 (i i1 j j1 k k1 nx ny nz sgntx sgnty sgntz sgnvx sgnvy sgnvz : Int) (_ : 2 ≤ nz) (_ : 2 ≤ nx) (_ : 2 ≤ ny) (_ : 1 ≤ k) (_ : k < ny) (_ : 1 ≤ j) (_ : j < nx) (_ : 1 ≤ i) (_ : i < nz) (_ : sgnvz = 1) (_ : sgnvx = 1) (_ : sgnvy = 1) (_ : sgntz = 1) (_ : sgntx = 1) (_ : sgnty = 1) (_ : i1 = (i - sgnvz)) (_ : j1 = (j - sgnvx)) (_ : k1 = (k - sgnvy)) :
    (0 ≤ i1 ∧ i1 < (nz - 1)) ∧ (0 ≤ (min j (nx - 2)) ∧ (min j (nx - 2)) < (nx - 1)) ∧ (0 ≤ (max (k - 1) 0) ∧ (max (k - 1) 0) < (ny - 1)) := ⟨Idx.up_cell, Idx.up_cellAbove, Idx.up_cellBelow⟩

theorem fteik3d_sweep_L81c8_ctx1 (i i1 j j1 k k1 nx ny nz sgntx sgnty sgntz sgnvx sgnvy sgnvz : Int) (_ : 2 ≤ nz) (_ : 2 ≤ nx) (_ : 2 ≤ ny) (_ : 1 ≤ k) (_ : k < ny) (_ : j ≤ (nx - 2)) (_ : (-1) < j) (_ : 1 ≤ i) (_ : i < nz) (_ : sgnvz = 1) (_ : sgnvx = 0) (_ : sgnvy = 1) (_ : sgntz = 1) (_ : sgntx = -1) (_ : sgnty = 1) (_ : i1 = (i - sgnvz)) (_ : j1 = (j - sgnvx)) (_ : k1 = (k - sgnvy)) :
    (0 ≤ i1 ∧ i1 < (nz - 1)) ∧ (0 ≤ (min j (nx - 2)) ∧ (min j (nx - 2)) < (nx - 1)) ∧ (0 ≤ (max (k - 1) 0) ∧ (max (k - 1) 0) < (ny - 1)) := ⟨Idx.up_cell, Idx.down_cellAbove, Idx.up_cellBelow⟩

theorem fteik3d_sweep_L81c8_ctx2 (i i1 j j1 k k1 nx ny nz sgntx sgnty sgntz sgnvx sgnvy sgnvz : Int) (_ : 2 ≤ nz) (_ : 2 ≤ nx) (_ : 2 ≤ ny) (_ : k ≤ (ny - 2)) (_ : (-1) < k) (_ : 1 ≤ j) (_ : j < nx) (_ : 1 ≤ i) (_ : i < nz) (_ : sgnvz = 1) (_ : sgnvx = 1) (_ : sgnvy = 0) (_ : sgntz = 1) (_ : sgntx = 1) (_ : sgnty = -1) (_ : i1 = (i - sgnvz)) (_ : j1 = (j - sgnvx)) (_ : k1 = (k - sgnvy)) :
    (0 ≤ i1 ∧ i1 < (nz - 1)) ∧ (0 ≤ (min j (nx - 2)) ∧ (min j (nx - 2)) < (nx - 1)) ∧ (0 ≤ (max (k - 1) 0) ∧ (max (k - 1) 0) < (ny - 1)) := ⟨Idx.up_cell, Idx.up_cellAbove, Idx.down_cellBelow⟩

theorem fteik3d_sweep_L81c8_ctx3 (i i1 j j1 k k1 nx ny nz sgntx sgnty sgntz sgnvx sgnvy sgnvz : Int) (_ : 2 ≤ nz) (_ : 2 ≤ nx) (_ : 2 ≤ ny) (_ : k ≤ (ny - 2)) (_ : (-1) < k) (_ : j ≤ (nx - 2)) (_ : (-1) < j) (_ : 1 ≤ i) (_ : i < nz) (_ : sgnvz = 1) (_ : sgnvx = 0) (_ : sgnvy = 0) (_ : sgntz = 1) (_ : sgntx = -1) (_ : sgnty = -1) (_ : i1 = (i - sgnvz)) (_ : j1 = (j - sgnvx)) (_ : k1 = (k - sgnvy)) :
    (0 ≤ i1 ∧ i1 < (nz - 1)) ∧ (0 ≤ (min j (nx - 2)) ∧ (min j (nx - 2)) < (nx - 1)) ∧ (0 ≤ (max (k - 1) 0) ∧ (max (k - 1) 0) < (ny - 1)) := ⟨Idx.up_cell, Idx.down_cellAbove, Idx.down_cellBelow⟩

theorem fteik3d_sweep_L81c8_ctx4 (i i1 j j1 k k1 nx ny nz sgntx sgnty sgntz sgnvx sgnvy sgnvz : Int) (_ : 2 ≤ nz) (_ : 2 ≤ nx) (_ : 2 ≤ ny) (_ : 1 ≤ k) (_ : k < ny) (_ : 1 ≤ j) (_ : j < nx) (_ : i ≤ (nz - 2)) (_ : (-1) < i) (_ : sgnvz = 0) (_ : sgnvx = 1) (_ : sgnvy = 1) (_ : sgntz = -1) (_ : sgntx = 1) (_ : sgnty = 1) (_ : i1 = (i - sgnvz)) (_ : j1 = (j - sgnvx)) (_ : k1 = (k - sgnvy)) :
    (0 ≤ i1 ∧ i1 < (nz - 1)) ∧ (0 ≤ (min j (nx - 2)) ∧ (min j (nx - 2)) < (nx - 1)) ∧ (0 ≤ (max (k - 1) 0) ∧ (max (k - 1) 0) < (ny - 1)) := ⟨Idx.down_cell, Idx.up_cellAbove, Idx.up_cellBelow⟩

theorem fteik3d_sweep_L81c8_ctx5 (i i1 j j1 k k1 nx ny nz sgntx sgnty sgntz sgnvx sgnvy sgnvz : Int) (_ : 2 ≤ nz) (_ : 2 ≤ nx) (_ : 2 ≤ ny) (_ : 1 ≤ k) (_ : k < ny) (_ : j ≤ (nx - 2)) (_ : (-1) < j) (_ : i ≤ (nz - 2)) (_ : (-1) < i) (_ : sgnvz = 0) (_ : sgnvx = 0) (_ : sgnvy = 1) (_ : sgntz = -1) (_ : sgntx = -1) (_ : sgnty = 1) (_ : i1 = (i - sgnvz)) (_ : j1 = (j - sgnvx)) (_ : k1 = (k - sgnvy)) :
    (0 ≤ i1 ∧ i1 < (nz - 1)) ∧ (0 ≤ (min j (nx - 2)) ∧ (min j (nx - 2)) < (nx - 1)) ∧ (0 ≤ (max (k - 1) 0) ∧ (max (k - 1) 0) < (ny - 1)) := ⟨Idx.down_cell, Idx.down_cellAbove, Idx.up_cellBelow⟩

theorem fteik3d_sweep_L81c8_ctx6 (i i1 j j1 k k1 nx ny nz sgntx sgnty sgntz sgnvx sgnvy sgnvz : Int) (_ : 2 ≤ nz) (_ : 2 ≤ nx) (_ : 2 ≤ ny) (_ : k ≤ (ny - 2)) (_ : (-1) < k) (_ : 1 ≤ j) (_ : j < nx) (_ : i ≤ (nz - 2)) (_ : (-1) < i) (_ : sgnvz = 0) (_ : sgnvx = 1) (_ : sgnvy = 0) (_ : sgntz = -1) (_ : sgntx = 1) (_ : sgnty = -1) (_ : i1 = (i - sgnvz)) (_ : j1 = (j - sgnvx)) (_ : k1 = (k - sgnvy)) :
    (0 ≤ i1 ∧ i1 < (nz - 1)) ∧ (0 ≤ (min j (nx - 2)) ∧ (min j (nx - 2)) < (nx - 1)) ∧ (0 ≤ (max (k - 1) 0) ∧ (max (k - 1) 0) < (ny - 1)) := ⟨Idx.down_cell, Idx.up_cellAbove, Idx.down_cellBelow⟩

theorem fteik3d_sweep_L81c8_ctx7 (i i1 j j1 k k1 nx ny nz sgntx sgnty sgntz sgnvx sgnvy sgnvz : Int) (_ : 2 ≤ nz) (_ : 2 ≤ nx) (_ : 2 ≤ ny) (_ : k ≤ (ny - 2)) (_ : (-1) < k) (_ : j ≤ (nx - 2)) (_ : (-1) < j) (_ : i ≤ (nz - 2)) (_ : (-1) < i) (_ : sgnvz = 0) (_ : sgnvx = 0) (_ : sgnvy = 0) (_ : sgntz = -1) (_ : sgntx = -1) (_ : sgnty = -1) (_ : i1 = (i - sgnvz)) (_ : j1 = (j - sgnvx)) (_ : k1 = (k - sgnvy)) :
    (0 ≤ i1 ∧ i1 < (nz - 1)) ∧ (0 ≤ (min j (nx - 2)) ∧ (min j (nx - 2)) < (nx - 1)) ∧ (0 ≤ (max (k - 1) 0) ∧ (max (k - 1) 0) < (ny - 1)) := ⟨Idx.down_cell, Idx.down_cellAbove, Idx.down_cellBelow⟩

theorem fteik3d_sweep_L82c8_ctx0 (i i1 j j1 k k1 nx ny nz sgntx sgnty sgntz sgnvx sgnvy sgnvz : Int) (_ : 2 ≤ nz) (_ : 2 ≤ nx) (_ : 2 ≤ ny) (_ : 1 ≤ k) (_ : k < ny) (_ : 1 ≤ j) (_ : j < nx) (_ : 1 ≤ i) (_ : i < nz) (_ : sgnvz = 1) (_ : sgnvx = 1) (_ : sgnvy = 1) (_ : sgntz = 1) (_ : sgntx = 1) (_ : sgnty = 1) (_ : i1 = (i - sgnvz)) (_ : j1 = (j - sgnvx)) (_ : k1 = (k - sgnvy)) :
    (0 ≤ i1 ∧ i1 < (nz - 1)) ∧ (0 ≤ (min j (nx - 2)) ∧ (min j (nx - 2)) < (nx - 1)) ∧ (0 ≤ (min k (ny - 2)) ∧ (min k (ny - 2)) < (ny - 1)) := ⟨Idx.up_cell, Idx.up_cellAbove, Idx.up_cellAbove⟩

theorem fteik3d_sweep_L82c8_ctx1 (i i1 j j1 k k1 nx ny nz sgntx sgnty sgntz sgnvx sgnvy sgnvz : Int) (_ : 2 ≤ nz) (_ : 2 ≤ nx) (_ : 2 ≤ ny) (_ : 1 ≤ k) (_ : k < ny) (_ : j ≤ (nx - 2)) (_ : (-1) < j) (_ : 1 ≤ i) (_ : i < nz) (_ : sgnvz = 1) (_ : sgnvx = 0) (_ : sgnvy = 1) (_ : sgntz = 1) (_ : sgntx = -1) (_ : sgnty = 1) (_ : i1 = (i - sgnvz)) (_ : j1 = (j - sgnvx)) (_ : k1 = (k - sgnvy)) :
    (0 ≤ i1 ∧ i1 < (nz - 1)) ∧ (0 ≤ (min j (nx - 2)) ∧ (min j (nx - 2)) < (nx - 1)) ∧ (0 ≤ (min k (ny - 2)) ∧ (min k (ny - 2)) < (ny - 1)) := ⟨Idx.up_cell, Idx.down_cellAbove, Idx.up_cellAbove⟩

theorem fteik3d_sweep_L82c8_ctx2 (i i1 j j1 k k1 nx ny nz sgntx sgnty sgntz sgnvx sgnvy sgnvz : Int) (_ : 2 ≤ nz) (_ : 2 ≤ nx) (_ : 2 ≤ ny) (_ : k ≤ (ny - 2)) (_ : (-1) < k) (_ : 1 ≤ j) (_ : j < nx) (_ : 1 ≤ i) (_ : i < nz) (_ : sgnvz = 1) (_ : sgnvx = 1) (_ : sgnvy = 0) (_ : sgntz = 1) (_ : sgntx = 1) (_ : sgnty = -1) (_ : i1 = (i - sgnvz)) (_ : j1 = (j - sgnvx)) (_ : k1 = (k - sgnvy)) :
    (0 ≤ i1 ∧ i1 < (nz - 1)) ∧ (0 ≤ (min j (nx - 2)) ∧ (min j (nx - 2)) < (nx - 1)) ∧ (0 ≤ (min k (ny - 2)) ∧ (min k (ny - 2)) < (ny - 1)) := ⟨Idx.up_cell, Idx.up_cellAbove, Idx.down_cellAbove⟩

theorem fteik3d_sweep_L82c8_ctx3 (i i1 j j1 k k1 nx ny nz sgntx sgnty sgntz sgnvx sgnvy sgnvz : Int) (_ : 2 ≤ nz) (_ : 2 ≤ nx) (_ : 2 ≤ ny) (_ : k ≤ (ny - 2)) (_ : (-1) < k) (_ : j ≤ (nx - 2)) (_ : (-1) < j) (_ : 1 ≤ i) (_ : i < nz) (_ : sgnvz = 1) (_ : sgnvx = 0) (_ : sgnvy = 0) (_ : sgntz = 1) (_ : sgntx = -1) (_ : sgnty = -1) (_ : i1 = (i - sgnvz)) (_ : j1 = (j - sgnvx)) (_ : k1 = (k - sgnvy)) :
    (0 ≤ i1 ∧ i1 < (nz - 1)) ∧ (0 ≤ (min j (nx - 2)) ∧ (min j (nx - 2)) < (nx - 1)) ∧ (0 ≤ (min k (ny - 2)) ∧ (min k (ny - 2)) < (ny - 1)) := ⟨Idx.up_cell, Idx.down_cellAbove, Idx.down_cellAbove⟩

theorem fteik3d_sweep_L82c8_ctx4 (i i1 j j1 k k1 nx ny nz sgntx sgnty sgntz sgnvx sgnvy sgnvz : Int) (_ : 2 ≤ nz) (_ : 2 ≤ nx) (_ : 2 ≤ ny) (_ : 1 ≤ k) (_ : k < ny) (_ : 1 ≤ j) (_ : j < nx) (_ : i ≤ (nz - 2)) (_ : (-1) < i) (_ : sgnvz = 0) (_ : sgnvx = 1) (_ : sgnvy = 1) (_ : sgntz = -1) (_ : sgntx = 1) (_ : sgnty = 1) (_ : i1 = (i - sgnvz)) (_ : j1 = (j - sgnvx)) (_ : k1 = (k - sgnvy)) :
    (0 ≤ i1 ∧ i1 < (nz - 1)) ∧ (0 ≤ (min j (nx - 2)) ∧ (min j (nx - 2)) < (nx - 1)) ∧ (0 ≤ (min k (ny - 2)) ∧ (min k (ny - 2)) < (ny - 1)) := ⟨Idx.down_cell, Idx.up_cellAbove, Idx.up_cellAbove⟩

theorem fteik3d_sweep_L82c8_ctx5 (i i1 j j1 k k1 nx ny nz sgntx sgnty sgntz sgnvx sgnvy sgnvz : Int) (_ : 2 ≤ nz) (_ : 2 ≤ nx) (_ : 2 ≤ ny) (_ : 1 ≤ k) (_ : k < ny) (_ : j ≤ (nx - 2)) (_ : (-1) < j) (_ : i ≤ (nz - 2)) (_ : (-1) < i) (_ : sgnvz = 0) (_ : sgnvx = 0) (_ : sgnvy = 1) (_ : sgntz = -1) (_ : sgntx = -1) (_ : sgnty = 1) (_ : i1 = (i - sgnvz)) (_ : j1 = (j - sgnvx)) (_ : k1 = (k - sgnvy)) :
    (0 ≤ i1 ∧ i1 < (nz - 1)) ∧ (0 ≤ (min j (nx - 2)) ∧ (min j (nx - 2)) < (nx - 1)) ∧ (0 ≤ (min k (ny - 2)) ∧ (min k (ny - 2)) < (ny - 1)) := ⟨Idx.down_cell, Idx.down_cellAbove, Idx.up_cellAbove⟩

theorem fteik3d_sweep_L82c8_ctx6 (i i1 j j1 k k1 nx ny nz sgntx sgnty sgntz sgnvx sgnvy sgnvz : Int) (_ : 2 ≤ nz) (_ : 2 ≤ nx) (_ : 2 ≤ ny) (_ : k ≤ (ny - 2)) (_ : (-1) < k) (_ : 1 ≤ j) (_ : j < nx) (_ : i ≤ (nz - 2)) (_ : (-1) < i) (_ : sgnvz = 0) (_ : sgnvx = 1) (_ : sgnvy = 0) (_ : sgntz = -1) (_ : sgntx = 1) (_ : sgnty = -1) (_ : i1 = (i - sgnvz)) (_ : j1 = (j - sgnvx)) (_ : k1 = (k - sgnvy)) :
    (0 ≤ i1 ∧ i1 < (nz - 1)) ∧ (0 ≤ (min j (nx - 2)) ∧ (min j (nx - 2)) < (nx - 1)) ∧ (0 ≤ (min k (ny - 2)) ∧ (min k (ny - 2)) < (ny - 1)) := ⟨Idx.down_cell, Idx.up_cellAbove, Idx.down_cellAbove⟩

theorem fteik3d_sweep_L82c8_ctx7 (i i1 j j1 k k1 nx ny nz sgntx sgnty sgntz sgnvx sgnvy sgnvz : Int) (_ : 2 ≤ nz) (_ : 2 ≤ nx) (_ : 2 ≤ ny) (_ : k ≤ (ny - 2)) (_ : (-1) < k) (_ : j ≤ (nx - 2)) (_ : (-1) < j) (_ : i ≤ (nz - 2)) (_ : (-1) < i) (_ : sgnvz = 0) (_ : sgnvx = 0) (_ : sgnvy = 0) (_ : sgntz = -1) (_ : sgntx = -1) (_ : sgnty = -1) (_ : i1 = (i - sgnvz)) (_ : j1 = (j - sgnvx)) (_ : k1 = (k - sgnvy)) :
    (0 ≤ i1 ∧ i1 < (nz - 1)) ∧ (0 ≤ (min j (nx - 2)) ∧ (min j (nx - 2)) < (nx - 1)) ∧ (0 ≤ (min k (ny - 2)) ∧ (min k (ny - 2)) < (ny - 1)) := ⟨Idx.down_cell, Idx.down_cellAbove, Idx.down_cellAbove⟩

theorem fteik3d_sweep_L88c8_ctx0 (dz i i1 j j1 k k1 nx ny nz sgntx sgnty sgntz sgnvx sgnvy sgnvz t1d1 tv vref : Int) (_ : 2 ≤ nz) (_ : 2 ≤ nx) (_ : 2 ≤ ny) (_ : 1 ≤ k) (_ : k < ny) (_ : 1 ≤ j) (_ : j < nx) (_ : 1 ≤ i) (_ : i < nz) (_ : sgnvz = 1) (_ : sgnvx = 1) (_ : sgnvy = 1) (_ : sgntz = 1) (_ : sgntx = 1) (_ : sgnty = 1) (_ : i1 = (i - sgnvz)) (_ : j1 = (j - sgnvx)) (_ : k1 = (k - sgnvy)) (_ : t1d1 = (tv + (dz * vref))) :
    (0 ≤ (max (i - 1) 0) ∧ (max (i - 1) 0) < (nz - 1)) ∧ (0 ≤ j1 ∧ j1 < (nx - 1)) ∧ (0 ≤ (max (k - 1) 0) ∧ (max (k - 1) 0) < (ny - 1)) := ⟨Idx.up_cellBelow, Idx.up_cell, Idx.up_cellBelow⟩

theorem fteik3d_sweep_L88c8_ctx1 (dz i i1 j j1 k k1 nx ny nz sgntx sgnty sgntz sgnvx sgnvy sgnvz t1d1 tv vref : Int) (_ : 2 ≤ nz) (_ : 2 ≤ nx) (_ : 2 ≤ ny) (_ : 1 ≤ k) (_ : k < ny) (_ : j ≤ (nx - 2)) (_ : (-1) < j) (_ : 1 ≤ i) (_ : i < nz) (_ : sgnvz = 1) (_ : sgnvx = 0) (_ : sgnvy = 1) (_ : sgntz = 1) (_ : sgntx = -1) (_ : sgnty = 1) (_ : i1 = (i - sgnvz)) (_ : j1 = (j - sgnvx)) (_ : k1 = (k - sgnvy)) (_ : t1d1 = (tv + (dz * vref))) :
    (0 ≤ (max (i - 1) 0) ∧ (max (i - 1) 0) < (nz - 1)) ∧ (0 ≤ j1 ∧ j1 < (nx - 1)) ∧ (0 ≤ (max (k - 1) 0) ∧ (max (k - 1) 0) < (ny - 1)) := ⟨Idx.up_cellBelow, Idx.down_cell, Idx.up_cellBelow⟩

theorem fteik3d_sweep_L88c8_ctx2 (dz i i1 j j1 k k1 nx ny nz sgntx sgnty sgntz sgnvx sgnvy sgnvz t1d1 tv vref : Int) (_ : 2 ≤ nz) (_ : 2 ≤ nx) (_ : 2 ≤ ny) (_ : k ≤ (ny - 2)) (_ : (-1) < k) (_ : 1 ≤ j) (_ : j < nx) (_ : 1 ≤ i) (_ : i < nz) (_ : sgnvz = 1) (_ : sgnvx = 1) (_ : sgnvy = 0) (_ : sgntz = 1) (_ : sgntx = 1) (_ : sgnty = -1) (_ : i1 = (i - sgnvz)) (_ : j1 = (j - sgnvx)) (_ : k1 = (k - sgnvy)) (_ : t1d1 = (tv + (dz * vref))) :
    (0 ≤ (max (i - 1) 0) ∧ (max (i - 1) 0) < (nz - 1)) ∧ (0 ≤ j1 ∧ j1 < (nx - 1)) ∧ (0 ≤ (max (k - 1) 0) ∧ (max (k - 1) 0) < (ny - 1)) := ⟨Idx.up_cellBelow, Idx.up_cell, Idx.down_cellBelow⟩

theorem fteik3d_sweep_L88c8_ctx3 (dz i i1 j j1 k k1 nx ny nz sgntx sgnty sgntz sgnvx sgnvy sgnvz t1d1 tv vref : Int) (_ : 2 ≤ nz) (_ : 2 ≤ nx) (_ : 2 ≤ ny) (_ : k ≤ (ny - 2)) (_ : (-1) < k) (_ : j ≤ (nx - 2)) (_ : (-1) < j) (_ : 1 ≤ i) (_ : i < nz) (_ : sgnvz = 1) (_ : sgnvx = 0) (_ : sgnvy = 0) (_ : sgntz = 1) (_ : sgntx = -1) (_ : sgnty = -1) (_ : i1 = (i - sgnvz)) (_ : j1 = (j - sgnvx)) (_ : k1 = (k - sgnvy)) (_ : t1d1 = (tv + (dz * vref))) :
    (0 ≤ (max (i - 1) 0) ∧ (max (i - 1) 0) < (nz - 1)) ∧ (0 ≤ j1 ∧ j1 < (nx - 1)) ∧ (0 ≤ (max (k - 1) 0) ∧ (max (k - 1) 0) < (ny - 1)) := ⟨Idx.up_cellBelow, Idx.down_cell, Idx.down_cellBelow⟩

theorem fteik3d_sweep_L88c8_ctx4 (dz i i1 j j1 k k1 nx ny nz sgntx sgnty sgntz sgnvx sgnvy sgnvz t1d1 tv vref : Int) (_ : 2 ≤ nz) (_ : 2 ≤ nx) (_ : 2 ≤ ny) (_ : 1 ≤ k) (_ : k < ny) (_ : 1 ≤ j) (_ : j < nx) (_ : i ≤ (nz - 2)) (_ : (-1) < i) (_ : sgnvz = 0) (_ : sgnvx = 1) (_ : sgnvy = 1) (_ : sgntz = -1) (_ : sgntx = 1) (_ : sgnty = 1) (_ : i1 = (i - sgnvz)) (_ : j1 = (j - sgnvx)) (_ : k1 = (k - sgnvy)) (_ : t1d1 = (tv + (dz * vref))) :
    (0 ≤ (max (i - 1) 0) ∧ (max (i - 1) 0) < (nz - 1)) ∧ (0 ≤ j1 ∧ j1 < (nx - 1)) ∧ (0 ≤ (max (k - 1) 0) ∧ (max (k - 1) 0) < (ny - 1)) := ⟨Idx.down_cellBelow, Idx.up_cell, Idx.up_cellBelow⟩

theorem fteik3d_sweep_L88c8_ctx5 (dz i i1 j j1 k k1 nx ny nz sgntx sgnty sgntz sgnvx sgnvy sgnvz t1d1 tv vref : Int) (_ : 2 ≤ nz) (_ : 2 ≤ nx) (_ : 2 ≤ ny) (_ : 1 ≤ k) (_ : k < ny) (_ : j ≤ (nx - 2)) (_ : (-1) < j) (_ : i ≤ (nz - 2)) (_ : (-1) < i) (_ : sgnvz = 0) (_ : sgnvx = 0) (_ : sgnvy = 1) (_ : sgntz = -1) (_ : sgntx = -1) (_ : sgnty = 1) (_ : i1 = (i - sgnvz)) (_ : j1 = (j - sgnvx)) (_ : k1 = (k - sgnvy)) (_ : t1d1 = (tv + (dz * vref))) :
    (0 ≤ (max (i - 1) 0) ∧ (max (i - 1) 0) < (nz - 1)) ∧ (0 ≤ j1 ∧ j1 < (nx - 1)) ∧ (0 ≤ (max (k - 1) 0) ∧ (max (k - 1) 0) < (ny - 1)) := ⟨Idx.down_cellBelow, Idx.down_cell, Idx.up_cellBelow⟩

theorem fteik3d_sweep_L88c8_ctx6 (dz i i1 j j1 k k1 nx ny nz sgntx sgnty sgntz sgnvx sgnvy sgnvz t1d1 tv vref : Int) (_ : 2 ≤ nz) (_ : 2 ≤ nx) (_ : 2 ≤ ny) (_ : k ≤ (ny - 2)) (_ : (-1) < k) (_ : 1 ≤ j) (_ : j < nx) (_ : i ≤ (nz - 2)) (_ : (-1) < i) (_ : sgnvz = 0) (_ : sgnvx = 1) (_ : sgnvy = 0) (_ : sgntz = -1) (_ : sgntx = 1) (_ : sgnty = -1) (_ : i1 = (i - sgnvz)) (_ : j1 = (j - sgnvx)) (_ : k1 = (k - sgnvy)) (_ : t1d1 = (tv + (dz * vref))) :
    (0 ≤ (max (i - 1) 0) ∧ (max (i - 1) 0) < (nz - 1)) ∧ (0 ≤ j1 ∧ j1 < (nx - 1)) ∧ (0 ≤ (max (k - 1) 0) ∧ (max (k - 1) 0) < (ny - 1)) := ⟨Idx.down_cellBelow, Idx.up_cell, Idx.down_cellBelow⟩

theorem fteik3d_sweep_L88c8_ctx7 (dz i i1 j j1 k k1 nx ny nz sgntx sgnty sgntz sgnvx sgnvy sgnvz t1d1 tv vref : Int) (_ : 2 ≤ nz) (_ : 2 ≤ nx) (_ : 2 ≤ ny) (_ : k ≤ (ny - 2)) (_ : (-1) < k) (_ : j ≤ (nx - 2)) (_ : (-1) < j) (_ : i ≤ (nz - 2)) (_ : (-1) < i) (_ : sgnvz = 0) (_ : sgnvx = 0) (_ : sgnvy = 0) (_ : sgntz = -1) (_ : sgntx = -1) (_ : sgnty = -1) (_ : i1 = (i - sgnvz)) (_ : j1 = (j - sgnvx)) (_ : k1 = (k - sgnvy)) (_ : t1d1 = (tv + (dz * vref))) :
    (0 ≤ (max (i - 1) 0) ∧ (max (i - 1) 0) < (nz - 1)) ∧ (0 ≤ j1 ∧ j1 < (nx - 1)) ∧ (0 ≤ (max (k - 1) 0) ∧ (max (k - 1) 0) < (ny - 1)) := ⟨Idx.down_cellBelow, Idx.down_cell, Idx.down_cellBelow⟩

theorem fteik3d_sweep_L89c8_ctx0 (dz i i1 j j1 k k1 nx ny nz sgntx sgnty sgntz sgnvx sgnvy sgnvz t1d1 tv vref : Int) (_ : 2 ≤ nz) (_ : 2 ≤ nx) (_ : 2 ≤ ny) (_ : 1 ≤ k) (_ : k < ny) (_ : 1 ≤ j) (_ : j < nx) (_ : 1 ≤ i) (_ : i < nz) (_ : sgnvz = 1) (_ : sgnvx = 1) (_ : sgnvy = 1) (_ : sgntz = 1) (_ : sgntx = 1) (_ : sgnty = 1) (_ : i1 = (i - sgnvz)) (_ : j1 = (j - sgnvx)) (_ : k1 = (k - sgnvy)) (_ : t1d1 = (tv + (dz * vref))) :
    (0 ≤ (min i (nz - 2)) ∧ (min i (nz - 2)) < (nz - 1)) ∧ (0 ≤ j1 ∧ j1 < (nx - 1)) ∧ (0 ≤ (max (k - 1) 0) ∧ (max (k - 1) 0) < (ny - 1)) := ⟨Idx.up_cellAbove, Idx.up_cell, Idx.up_cellBelow⟩

theorem fteik3d_sweep_L89c8_ctx1 (dz i i1 j j1 k k1 nx ny nz sgntx sgnty sgntz sgnvx sgnvy sgnvz t1d1 tv vref : Int) (_ : 2 ≤ nz) (_ : 2 ≤ nx) (_ : 2 ≤ ny) (_ : 1 ≤ k) (_ : k < ny) (_ : j ≤ (nx - 2)) (_ : (-1) < j) (_ : 1 ≤ i) (_ : i < nz) (_ : sgnvz = 1) (_ : sgnvx = 0) (_ : sgnvy = 1) (_ : sgntz = 1) (_ : sgntx = -1) (_ : sgnty = 1) (_ : i1 = (i - sgnvz)) (_ : j1 = (j - sgnvx)) (_ : k1 = (k - sgnvy)) (_ : t1d1 = (tv + (dz * vref))) :
    (0 ≤ (min i (nz - 2)) ∧ (min i (nz - 2)) < (nz - 1)) ∧ (0 ≤ j1 ∧ j1 < (nx - 1)) ∧ (0 ≤ (max (k - 1) 0) ∧ (max (k - 1) 0) < (ny - 1)) := ⟨Idx.up_cellAbove, Idx.down_cell, Idx.up_cellBelow⟩

theorem fteik3d_sweep_L89c8_ctx2 (dz i i1 j j1 k k1 nx ny nz sgntx sgnty sgntz sgnvx sgnvy sgnvz t1d1 tv vref : Int) (_ : 2 ≤ nz) (_ : 2 ≤ nx) (_ : 2 ≤ ny) (_ : k ≤ (ny - 2)) (_ : (-1) < k) (_ : 1 ≤ j) (_ : j < nx) (_ : 1 ≤ i) (_ : i < nz) (_ : sgnvz = 1) (_ : sgnvx = 1) (_ : sgnvy = 0) (_ : sgntz = 1) (_ : sgntx = 1) (_ : sgnty = -1) (_ : i1 = (i - sgnvz)) (_ : j1 = (j - sgnvx)) (_ : k1 = (k - sgnvy)) (_ : t1d1 = (tv + (dz * vref))) :
    (0 ≤ (min i (nz - 2)) ∧ (min i (nz - 2)) < (nz - 1)) ∧ (0 ≤ j1 ∧ j1 < (nx - 1)) ∧ (0 ≤ (max (k - 1) 0) ∧ (max (k - 1) 0) < (ny - 1)) := ⟨Idx.up_cellAbove, Idx.up_cell, Idx.down_cellBelow⟩

theorem fteik3d_sweep_L89c8_ctx3 (dz i i1 j j1 k k1 nx ny nz sgntx sgnty sgntz sgnvx sgnvy sgnvz t1d1 tv vref : Int) (_ : 2 ≤ nz) (_ : 2 ≤ nx) (_ : 2 ≤ ny) (_ : k ≤ (ny - 2)) (_ : (-1) < k) (_ : j ≤ (nx - 2)) (_ : (-1) < j) (_ : 1 ≤ i) (_ : i < nz) (_ : sgnvz = 1) (_ : sgnvx = 0) (_ : sgnvy = 0) (_ : sgntz = 1) (_ : sgntx = -1) (_ : sgnty = -1) (_ : i1 = (i - sgnvz)) (_ : j1 = (j - sgnvx)) (_ : k1 = (k - sgnvy)) (_ : t1d1 = (tv + (dz * vref))) :
    (0 ≤ (min i (nz - 2)) ∧ (min i (nz - 2)) < (nz - 1)) ∧ (0 ≤ j1 ∧ j1 < (nx - 1)) ∧ (0 ≤ (max (k - 1) 0) ∧ (max (k - 1) 0) < (ny - 1)) := ⟨Idx.up_cellAbove, Idx.down_cell, Idx.down_cellBelow⟩

theorem fteik3d_sweep_L89c8_ctx4 (dz i i1 j j1 k k1 nx ny nz sgntx sgnty sgntz sgnvx sgnvy sgnvz t1d1 tv vref : Int) (_ : 2 ≤ nz) (_ : 2 ≤ nx) (_ : 2 ≤ ny) (_ : 1 ≤ k) (_ : k < ny) (_ : 1 ≤ j) (_ : j < nx) (_ : i ≤ (nz - 2)) (_ : (-1) < i) (_ : sgnvz = 0) (_ : sgnvx = 1) (_ : sgnvy = 1) (_ : sgntz = -1) (_ : sgntx = 1) (_ : sgnty = 1) (_ : i1 = (i - sgnvz)) (_ : j1 = (j - sgnvx)) (_ : k1 = (k - sgnvy)) (_ : t1d1 = (tv + (dz * vref))) :
    (0 ≤ (min i (nz - 2)) ∧ (min i (nz - 2)) < (nz - 1)) ∧ (0 ≤ j1 ∧ j1 < (nx - 1)) ∧ (0 ≤ (max (k - 1) 0) ∧ (max (k - 1) 0) < (ny - 1)) := ⟨Idx.down_cellAbove, Idx.up_cell, Idx.up_cellBelow⟩

theorem fteik3d_sweep_L89c8_ctx5 (dz i i1 j j1 k k1 nx ny nz sgntx sgnty sgntz sgnvx sgnvy sgnvz t1d1 tv vref : Int) (_ : 2 ≤ nz) (_ : 2 ≤ nx) (_ : 2 ≤ ny) (_ : 1 ≤ k) (_ : k < ny) (_ : j ≤ (nx - 2)) (_ : (-1) < j) (_ : i ≤ (nz - 2)) (_ : (-1) < i) (_ : sgnvz = 0) (_ : sgnvx = 0) (_ : sgnvy = 1) (_ : sgntz = -1) (_ : sgntx = -1) (_ : sgnty = 1) (_ : i1 = (i - sgnvz)) (_ : j1 = (j - sgnvx)) (_ : k1 = (k - sgnvy)) (_ : t1d1 = (tv + (dz * vref))) :
    (0 ≤ (min i (nz - 2)) ∧ (min i (nz - 2)) < (nz - 1)) ∧ (0 ≤ j1 ∧ j1 < (nx - 1)) ∧ (0 ≤ (max (k - 1) 0) ∧ (max (k - 1) 0) < (ny - 1)) := ⟨Idx.down_cellAbove, Idx.down_cell, Idx.up_cellBelow⟩

theorem fteik3d_sweep_L89c8_ctx6 (dz i i1 j j1 k k1 nx ny nz sgntx sgnty sgntz sgnvx sgnvy sgnvz t1d1 tv vref : Int) (_ : 2 ≤ nz) (_ : 2 ≤ nx) (_ : 2 ≤ ny) (_ : k ≤ (ny - 2)) (_ : (-1) < k) (_ : 1 ≤ j) (_ : j < nx) (_ : i ≤ (nz - 2)) (_ : (-1) < i) (_ : sgnvz = 0) (_ : sgnvx = 1) (_ : sgnvy = 0) (_ : sgntz = -1) (_ : sgntx = 1) (_ : sgnty = -1) (_ : i1 = (i - sgnvz)) (_ : j1 = (j - sgnvx)) (_ : k1 = (k - sgnvy)) (_ : t1d1 = (tv + (dz * vref))) :
    (0 ≤ (min i (nz - 2)) ∧ (min i (nz - 2)) < (nz - 1)) ∧ (0 ≤ j1 ∧ j1 < (nx - 1)) ∧ (0 ≤ (max (k - 1) 0) ∧ (max (k - 1) 0) < (ny - 1)) := ⟨Idx.down_cellAbove, Idx.up_cell, Idx.down_cellBelow⟩

theorem fteik3d_sweep_L89c8_ctx7 (dz i i1 j j1 k k1 nx ny nz sgntx sgnty sgntz sgnvx sgnvy sgnvz t1d1 tv vref : Int) (_ : 2 ≤ nz) (_ : 2 ≤ nx) (_ : 2 ≤ ny) (_ : k ≤ (ny - 2)) (_ : (-1) < k) (_ : j ≤ (nx - 2)) (_ : (-1) < j) (_ : i ≤ (nz - 2)) (_ : (-1) < i) (_ : sgnvz = 0) (_ : sgnvx = 0) (_ : sgnvy = 0) (_ : sgntz = -1) (_ : sgntx = -1) (_ : sgnty = -1) (_ : i1 = (i - sgnvz)) (_ : j1 = (j - sgnvx)) (_ : k1 = (k - sgnvy)) (_ : t1d1 = (tv + (dz * vref))) :
    (0 ≤ (min i (nz - 2)) ∧ (min i (nz - 2)) < (nz - 1)) ∧ (0 ≤ j1 ∧ j1 < (nx - 1)) ∧ (0 ≤ (max (k - 1) 0) ∧ (max (k - 1) 0) < (ny - 1)) := ⟨Idx.down_cellAbove, Idx.down_cell, Idx.down_cellBelow⟩

theorem fteik3d_sweep_L90c8_ctx0 (dz i i1 j j1 k k1 nx ny nz sgntx sgnty sgntz sgnvx sgnvy sgnvz t1d1 tv vref : Int) (_ : 2 ≤ nz) (_ : 2 ≤ nx) (_ : 2 ≤ ny) (_ : 1 ≤ k) (_ : k < ny) (_ : 1 ≤ j) (_ : j < nx) (_ : 1 ≤ i) (_ : i < nz) (_ : sgnvz = 1) (_ : sgnvx = 1) (_ : sgnvy = 1) (_ : sgntz = 1) (_ : sgntx = 1) (_ : sgnty = 1) (_ : i1 = (i - sgnvz)) (_ : j1 = (j - sgnvx)) (_ : k1 = (k - sgnvy)) (_ : t1d1 = (tv + (dz * vref))) :
    (0 ≤ (max (i - 1) 0) ∧ (max (i - 1) 0) < (nz - 1)) ∧ (0 ≤ j1 ∧ j1 < (nx - 1)) ∧ (0 ≤ (min k (ny - 2)) ∧ (min k (ny - 2)) < (ny - 1)) := ⟨Idx.up_cellBelow, Idx.up_cell, Idx.up_cellAbove⟩

theorem fteik3d_sweep_L90c8_ctx1 (dz i i1 j j1 k k1 nx ny nz sgntx sgnty sgntz sgnvx sgnvy sgnvz t1d1 tv vref : Int) (_ : 2 ≤ nz) (_ : 2 ≤ nx) (_ : 2 ≤ ny) (_ : 1 ≤ k) (_ : k < ny) (_ : j ≤ (nx - 2)) (_ : (-1) < j) (_ : 1 ≤ i) (_ : i < nz) (_ : sgnvz = 1) (_ : sgnvx = 0) (_ : sgnvy = 1) (_ : sgntz = 1) (_ : sgntx = -1) (_ : sgnty = 1) (_ : i1 = (i - sgnvz)) (_ : j1 = (j - sgnvx)) (_ : k1 = (k - sgnvy)) (_ : t1d1 = (tv + (dz * vref))) :
    (0 ≤ (max (i - 1) 0) ∧ (max (i - 1) 0) < (nz - 1)) ∧ (0 ≤ j1 ∧ j1 < (nx - 1)) ∧ (0 ≤ (min k (ny - 2)) ∧ (min k (ny - 2)) < (ny - 1)) := ⟨Idx.up_cellBelow, Idx.down_cell, Idx.up_cellAbove⟩

theorem fteik3d_sweep_L90c8_ctx2 (dz i i1 j j1 k k1 nx ny nz sgntx sgnty sgntz sgnvx sgnvy sgnvz t1d1 tv vref : Int) (_ : 2 ≤ nz) (_ : 2 ≤ nx) (_ : 2 ≤ ny) (_ : k ≤ (ny - 2)) (_ : (-1) < k) (_ : 1 ≤ j) (_ : j < nx) (_ : 1 ≤ i) (_ : i < nz) (_ : sgnvz = 1) (_ : sgnvx = 1) (_ : sgnvy = 0) (_ : sgntz = 1) (_ : sgntx = 1) (_ : sgnty = -1) (_ : i1 = (i - sgnvz)) (_ : j1 = (j - sgnvx)) (_ : k1 = (k - sgnvy)) (_ : t1d1 = (tv + (dz * vref))) :
    (0 ≤ (max (i - 1) 0) ∧ (max (i - 1) 0) < (nz - 1)) ∧ (0 ≤ j1 ∧ j1 < (nx - 1)) ∧ (0 ≤ (min k (ny - 2)) ∧ (min k (ny - 2)) < (ny - 1)) := ⟨Idx.up_cellBelow, Idx.up_cell, Idx.down_cellAbove⟩

theorem fteik3d_sweep_L90c8_ctx3 (dz i i1 j j1 k k1 nx ny nz sgntx sgnty sgntz sgnvx sgnvy sgnvz t1d1 tv vref : Int) (_ : 2 ≤ nz) (_ : 2 ≤ nx) (_ : 2 ≤ ny) (_ : k ≤ (ny - 2)) (_ : (-1) < k) (_ : j ≤ (nx - 2)) (_ : (-1) < j) (_ : 1 ≤ i) (_ : i < nz) (_ : sgnvz = 1) (_ : sgnvx = 0) (_ : sgnvy = 0) (_ : sgntz = 1) (_ : sgntx = -1) (_ : sgnty = -1) (_ : i1 = (i - sgnvz)) (_ : j1 = (j - sgnvx)) (_ : k1 = (k - sgnvy)) (_ : t1d1 = (tv + (dz * vref))) :
    (0 ≤ (max (i - 1) 0) ∧ (max (i - 1) 0) < (nz - 1)) ∧ (0 ≤ j1 ∧ j1 < (nx - 1)) ∧ (0 ≤ (min k (ny - 2)) ∧ (min k (ny - 2)) < (ny - 1)) := ⟨Idx.up_cellBelow, Idx.down_cell, Idx.down_cellAbove⟩

theorem fteik3d_sweep_L90c8_ctx4 (dz i i1 j j1 k k1 nx ny nz sgntx sgnty sgntz sgnvx sgnvy sgnvz t1d1 tv vref : Int) (_ : 2 ≤ nz) (_ : 2 ≤ nx) (_ : 2 ≤ ny) (_ : 1 ≤ k) (_ : k < ny) (_ : 1 ≤ j) (_ : j < nx) (_ : i ≤ (nz - 2)) (_ : (-1) < i) (_ : sgnvz = 0) (_ : sgnvx = 1) (_ : sgnvy = 1) (_ : sgntz = -1) (_ : sgntx = 1) (_ : sgnty = 1) (_ : i1 = (i - sgnvz)) (_ : j1 = (j - sgnvx)) (_ : k1 = (k - sgnvy)) (_ : t1d1 = (tv + (dz * vref))) :
    (0 ≤ (max (i - 1) 0) ∧ (max (i - 1) 0) < (nz - 1)) ∧ (0 ≤ j1 ∧ j1 < (nx - 1)) ∧ (0 ≤ (min k (ny - 2)) ∧ (min k (ny - 2)) < (ny - 1)) := ⟨Idx.down_cellBelow, Idx.up_cell, Idx.up_cellAbove⟩

theorem fteik3d_sweep_L90c8_ctx5 (dz i i1 j j1 k k1 nx ny nz sgntx sgnty sgntz sgnvx sgnvy sgnvz t1d1 tv vref : Int) (_ : 2 ≤ nz) (_ : 2 ≤ nx) (_ : 2 ≤ ny) (_ : 1 ≤ k) (_ : k < ny) (_ : j ≤ (nx - 2)) (_ : (-1) < j) (_ : i ≤ (nz - 2)) (_ : (-1) < i) (_ : sgnvz = 0) (_ : sgnvx = 0) (_ : sgnvy = 1) (_ : sgntz = -1) (_ : sgntx = -1) (_ : sgnty = 1) (_ : i1 = (i - sgnvz)) (_ : j1 = (j - sgnvx)) (_ : k1 = (k - sgnvy)) (_ : t1d1 = (tv + (dz * vref))) :
    (0 ≤ (max (i - 1) 0) ∧ (max (i - 1) 0) < (nz - 1)) ∧ (0 ≤ j1 ∧ j1 < (nx - 1)) ∧ (0 ≤ (min k (ny - 2)) ∧ (min k (ny - 2)) < (ny - 1)) := ⟨Idx.down_cellBelow, Idx.down_cell, Idx.up_cellAbove⟩

theorem fteik3d_sweep_L90c8_ctx6 (dz i i1 j j1 k k1 nx ny nz sgntx sgnty sgntz sgnvx sgnvy sgnvz t1d1 tv vref : Int) (_ : 2 ≤ nz) (_ : 2 ≤ nx) (_ : 2 ≤ ny) (_ : k ≤ (ny - 2)) (_ : (-1) < k) (_ : 1 ≤ j) (_ : j < nx) (_ : i ≤ (nz - 2)) (_ : (-1) < i) (_ : sgnvz = 0) (_ : sgnvx = 1) (_ : sgnvy = 0) (_ : sgntz = -1) (_ : sgntx = 1) (_ : sgnty = -1) (_ : i1 = (i - sgnvz)) (_ : j1 = (j - sgnvx)) (_ : k1 = (k - sgnvy)) (_ : t1d1 = (tv + (dz * vref))) :
    (0 ≤ (max (i - 1) 0) ∧ (max (i - 1) 0) < (nz - 1)) ∧ (0 ≤ j1 ∧ j1 < (nx - 1)) ∧ (0 ≤ (min k (ny - 2)) ∧ (min k (ny - 2)) < (ny - 1)) := ⟨Idx.down_cellBelow, Idx.up_cell, Idx.down_cellAbove⟩

theorem fteik3d_sweep_L90c8_ctx7 (dz i i1 j j1 k k1 nx ny nz sgntx sgnty sgntz sgnvx sgnvy sgnvz t1d1 tv vref : Int) (_ : 2 ≤ nz) (_ : 2 ≤ nx) (_ : 2 ≤ ny) (_ : k ≤ (ny - 2)) (_ : (-1) < k) (_ : j ≤ (nx - 2)) (_ : (-1) < j) (_ : i ≤ (nz - 2)) (_ : (-1) < i) (_ : sgnvz = 0) (_ : sgnvx = 0) (_ : sgnvy = 0) (_ : sgntz = -1) (_ : sgntx = -1) (_ : sgnty = -1) (_ : i1 = (i - sgnvz)) (_ : j1 = (j - sgnvx)) (_ : k1 = (k - sgnvy)) (_ : t1d1 = (tv + (dz * vref))) :
    (0 ≤ (max (i - 1) 0) ∧ (max (i - 1) 0) < (nz - 1)) ∧ (0 ≤ j1 ∧ j1 < (nx - 1)) ∧ (0 ≤ (min k (ny - 2)) ∧ (min k (ny - 2)) < (ny - 1)) := ⟨Idx.down_cellBelow, Idx.down_cell, Idx.down_cellAbove⟩

theorem fteik3d_sweep_L91c8_ctx0 (dz i i1 j j1 k k1 nx ny nz sgntx sgnty sgntz sgnvx sgnvy sgnvz t1d1 tv vref : Int) (_ : 2 ≤ nz) (_ : 2 ≤ nx) (_ : 2 ≤ ny) (_ : 1 ≤ k) (_ : k < ny) (_ : 1 ≤ j) (_ : j < nx) (_ : 1 ≤ i) (_ : i < nz) (_ : sgnvz = 1) (_ : sgnvx = 1) (_ : sgnvy = 1) (_ : sgntz = 1) (_ : sgntx = 1) (_ : sgnty = 1) (_ : i1 = (i - sgnvz)) (_ : j1 = (j - sgnvx)) (_ : k1 = (k - sgnvy)) (_ : t1d1 = (tv + (dz * vref))) :
    (0 ≤ (min i (nz - 2)) ∧ (min i (nz - 2)) < (nz - 1)) ∧ (0 ≤ j1 ∧ j1 < (nx - 1)) ∧ (0 ≤ (min k (ny - 2)) ∧ (min k (ny - 2)) < (ny - 1)) := ⟨Idx.up_cellAbove, Idx.up_cell, Idx.up_cellAbove⟩

theorem fteik3d_sweep_L91c8_ctx1 (dz i i1 j j1 k k1 nx ny nz sgntx sgnty sgntz sgnvx sgnvy sgnvz t1d1 tv vref : Int) (_ : 2 ≤ nz) (_ : 2 ≤ nx) (_ : 2 ≤ ny) (_ : 1 ≤ k) (_ : k < ny) (_ : j ≤ (nx - 2)) (_ : (-1) < j) (_ : 1 ≤ i) (_ : i < nz) (_ : sgnvz = 1) (_ : sgnvx = 0) (_ : sgnvy = 1) (_ : sgntz = 1) (_ : sgntx = -1) (_ : sgnty = 1) (_ : i1 = (i - sgnvz)) (_ : j1 = (j - sgnvx)) (_ : k1 = (k - sgnvy)) (_ : t1d1 = (tv + (dz * vref))) :
    (0 ≤ (min i (nz - 2)) ∧ (min i (nz - 2)) < (nz - 1)) ∧ (0 ≤ j1 ∧ j1 < (nx - 1)) ∧ (0 ≤ (min k (ny - 2)) ∧ (min k (ny - 2)) < (ny - 1)) := ⟨Idx.up_cellAbove, Idx.down_cell, Idx.up_cellAbove⟩

theorem fteik3d_sweep_L91c8_ctx2 (dz i i1 j j1 k k1 nx ny nz sgntx sgnty sgntz sgnvx sgnvy sgnvz t1d1 tv vref : Int) (_ : 2 ≤ nz) (_ : 2 ≤ nx) (_ : 2 ≤ ny) (_ : k ≤ (ny - 2)) (_ : (-1) < k) (_ : 1 ≤ j) (_ : j < nx) (_ : 1 ≤ i) (_ : i < nz) (_ : sgnvz = 1) (_ : sgnvx = 1) (_ : sgnvy = 0) (_ : sgntz = 1) (_ : sgntx = 1) (_ : sgnty = -1) (_ : i1 = (i - sgnvz)) (_ : j1 = (j - sgnvx)) (_ : k1 = (k - sgnvy)) (_ : t1d1 = (tv + (dz * vref))) :
    (0 ≤ (min i (nz - 2)) ∧ (min i (nz - 2)) < (nz - 1)) ∧ (0 ≤ j1 ∧ j1 < (nx - 1)) ∧ (0 ≤ (min k (ny - 2)) ∧ (min k (ny - 2)) < (ny - 1)) := ⟨Idx.up_cellAbove, Idx.up_cell, Idx.down_cellAbove⟩

theorem fteik3d_sweep_L91c8_ctx3 (dz i i1 j j1 k k1 nx ny nz sgntx sgnty sgntz sgnvx sgnvy sgnvz t1d1 tv vref : Int) (_ : 2 ≤ nz) (_ : 2 ≤ nx) (_ : 2 ≤ ny) (_ : k ≤ (ny - 2)) (_ : (-1) < k) (_ : j ≤ (nx - 2)) (_ : (-1) < j) (_ : 1 ≤ i) (_ : i < nz) (_ : sgnvz = 1) (_ : sgnvx = 0) (_ : sgnvy = 0) (_ : sgntz = 1) (_ : sgntx = -1) (_ : sgnty = -1) (_ : i1 = (i - sgnvz)) (_ : j1 = (j - sgnvx)) (_ : k1 = (k - sgnvy)) (_ : t1d1 = (tv + (dz * vref))) :
    (0 ≤ (min i (nz - 2)) ∧ (min i (nz - 2)) < (nz - 1)) ∧ (0 ≤ j1 ∧ j1 < (nx - 1)) ∧ (0 ≤ (min k (ny - 2)) ∧ (min k (ny - 2)) < (ny - 1)) := ⟨Idx.up_cellAbove, Idx.down_cell, Idx.down_cellAbove⟩

theorem fteik3d_sweep_L91c8_ctx4 (dz i i1 j j1 k k1 nx ny nz sgntx sgnty sgntz sgnvx sgnvy sgnvz t1d1 tv vref : Int) (_ : 2 ≤ nz) (_ : 2 ≤ nx) (_ : 2 ≤ ny) (_ : 1 ≤ k) (_ : k < ny) (_ : 1 ≤ j) (_ : j < nx) (_ : i ≤ (nz - 2)) (_ : (-1) < i) (_ : sgnvz = 0) (_ : sgnvx = 1) (_ : sgnvy = 1) (_ : sgntz = -1) (_ : sgntx = 1) (_ : sgnty = 1) (_ : i1 = (i - sgnvz)) (_ : j1 = (j - sgnvx)) (_ : k1 = (k - sgnvy)) (_ : t1d1 = (tv + (dz * vref))) :
    (0 ≤ (min i (nz - 2)) ∧ (min i (nz - 2)) < (nz - 1)) ∧ (0 ≤ j1 ∧ j1 < (nx - 1)) ∧ (0 ≤ (min k (ny - 2)) ∧ (min k (ny - 2)) < (ny - 1)) := ⟨Idx.down_cellAbove, Idx.up_cell, Idx.up_cellAbove⟩

theorem fteik3d_sweep_L91c8_ctx5 (dz i i1 j j1 k k1 nx ny nz sgntx sgnty sgntz sgnvx sgnvy sgnvz t1d1 tv vref : Int) (_ : 2 ≤ nz) (_ : 2 ≤ nx) (_ : 2 ≤ ny) (_ : 1 ≤ k) (_ : k < ny) (_ : j ≤ (nx - 2)) (_ : (-1) < j) (_ : i ≤ (nz - 2)) (_ : (-1) < i) (_ : sgnvz = 0) (_ : sgnvx = 0) (_ : sgnvy = 1) (_ : sgntz = -1) (_ : sgntx = -1) (_ : sgnty = 1) (_ : i1 = (i - sgnvz)) (_ : j1 = (j - sgnvx)) (_ : k1 = (k - sgnvy)) (_ : t1d1 = (tv + (dz * vref))) :
    (0 ≤ (min i (nz - 2)) ∧ (min i (nz - 2)) < (nz - 1)) ∧ (0 ≤ j1 ∧ j1 < (nx - 1)) ∧ (0 ≤ (min k (ny - 2)) ∧ (min k (ny - 2)) < (ny - 1)) := ⟨Idx.down_cellAbove, Idx.down_cell, Idx.up_cellAbove⟩

theorem fteik3d_sweep_L91c8_ctx6 (dz i i1 j j1 k k1 nx ny nz sgntx sgnty sgntz sgnvx sgnvy sgnvz t1d1 tv vref : Int) (_ : 2 ≤ nz) (_ : 2 ≤ nx) (_ : 2 ≤ ny) (_ : k ≤ (ny - 2)) (_ : (-1) < k) (_ : 1 ≤ j) (_ : j < nx) (_ : i ≤ (nz - 2)) (_ : (-1) < i) (_ : sgnvz = 0) (_ : sgnvx = 1) (_ : sgnvy = 0) (_ : sgntz = -1) (_ : sgntx = 1) (_ : sgnty = -1) (_ : i1 = (i - sgnvz)) (_ : j1 = (j - sgnvx)) (_ : k1 = (k - sgnvy)) (_ : t1d1 = (tv + (dz * vref))) :
    (0 ≤ (min i (nz - 2)) ∧ (min i (nz - 2)) < (nz - 1)) ∧ (0 ≤ j1 ∧ j1 < (nx - 1)) ∧ (0 ≤ (min k (ny - 2)) ∧ (min k (ny - 2)) < (ny - 1)) := ⟨Idx.down_cellAbove, Idx.up_cell, Idx.down_cellAbove⟩

theorem fteik3d_sweep_L91c8_ctx7 (dz i i1 j j1 k k1 nx ny nz sgntx sgnty sgntz sgnvx sgnvy sgnvz t1d1 tv vref : Int) (_ : 2 ≤ nz) (_ : 2 ≤ nx) (_ : 2 ≤ ny) (_ : k ≤ (ny - 2)) (_ : (-1) < k) (_ : j ≤ (nx - 2)) (_ : (-1) < j) (_ : i ≤ (nz - 2)) (_ : (-1) < i) (_ : sgnvz = 0) (_ : sgnvx = 0) (_ : sgnvy = 0) (_ : sgntz = -1) (_ : sgntx = -1) (_ : sgnty = -1) (_ : i1 = (i - sgnvz)) (_ : j1 = (j - sgnvx)) (_ : k1 = (k - sgnvy)) (_ : t1d1 = (tv + (dz * vref))) :
    (0 ≤ (min i (nz - 2)) ∧ (min i (nz - 2)) < (nz - 1)) ∧ (0 ≤ j1 ∧ j1 < (nx - 1)) ∧ (0 ≤ (min k (ny - 2)) ∧ (min k (ny - 2)) < (ny - 1)) := ⟨Idx.down_cellAbove, Idx.down_cell, Idx.down_cellAbove⟩

theorem fteik3d_sweep_L97c8_ctx0 (dx i i1 j j1 k k1 nx ny nz sgntx sgnty sgntz sgnvx sgnvy sgnvz t1d2 te vref : Int) (_ : 2 ≤ nz) (_ : 2 ≤ nx) (_ : 2 ≤ ny) (_ : 1 ≤ k) (_ : k < ny) (_ : 1 ≤ j) (_ : j < nx) (_ : 1 ≤ i) (_ : i < nz) (_ : sgnvz = 1) (_ : sgnvx = 1) (_ : sgnvy = 1) (_ : sgntz = 1) (_ : sgntx = 1) (_ : sgnty = 1) (_ : i1 = (i - sgnvz)) (_ : j1 = (j - sgnvx)) (_ : k1 = (k - sgnvy)) (_ : t1d2 = (te + (dx * vref))) :
    (0 ≤ (max (i - 1) 0) ∧ (max (i - 1) 0) < (nz - 1)) ∧ (0 ≤ (max (j - 1) 0) ∧ (max (j - 1) 0) < (nx - 1)) ∧ (0 ≤ k1 ∧ k1 < (ny - 1)) := ⟨Idx.up_cellBelow, Idx.up_cellBelow, Idx.up_cell⟩

theorem fteik3d_sweep_L97c8_ctx1 (dx i i1 j j1 k k1 nx ny nz sgntx sgnty sgntz sgnvx sgnvy sgnvz t1d2 te vref : Int) (_ : 2 ≤ nz) (_ : 2 ≤ nx) (_ : 2 ≤ ny) (_ : 1 ≤ k) (_ : k < ny) (_ : j ≤ (nx - 2)) (_ : (-1) < j) (_ : 1 ≤ i) (_ : i < nz) (_ : sgnvz = 1) (_ : sgnvx = 0) (_ : sgnvy = 1) (_ : sgntz = 1) (_ : sgntx = -1) (_ : sgnty = 1) (_ : i1 = (i - sgnvz)) (_ : j1 = (j - sgnvx)) (_ : k1 = (k - sgnvy)) (_ : t1d2 = (te + (dx * vref))) :
    (0 ≤ (max (i - 1) 0) ∧ (max (i - 1) 0) < (nz - 1)) ∧ (0 ≤ (max (j - 1) 0) ∧ (max (j - 1) 0) < (nx - 1)) ∧ (0 ≤ k1 ∧ k1 < (ny - 1)) := ⟨Idx.up_cellBelow, Idx.down_cellBelow, Idx.up_cell⟩

theorem fteik3d_sweep_L97c8_ctx2 (dx i i1 j j1 k k1 nx ny nz sgntx sgnty sgntz sgnvx sgnvy sgnvz t1d2 te vref : Int) (_ : 2 ≤ nz) (_ : 2 ≤ nx) (_ : 2 ≤ ny) (_ : k ≤ (ny - 2)) (_ : (-1) < k) (_ : 1 ≤ j) (_ : j < nx) (_ : 1 ≤ i) (_ : i < nz) (_ : sgnvz = 1) (_ : sgnvx = 1) (_ : sgnvy = 0) (_ : sgntz = 1) (_ : sgntx = 1) (_ : sgnty = -1) (_ : i1 = (i - sgnvz)) (_ : j1 = (j - sgnvx)) (_ : k1 = (k - sgnvy)) (_ : t1d2 = (te + (dx * vref))) :
    (0 ≤ (max (i - 1) 0) ∧ (max (i - 1) 0) < (nz - 1)) ∧ (0 ≤ (max (j - 1) 0) ∧ (max (j - 1) 0) < (nx - 1)) ∧ (0 ≤ k1 ∧ k1 < (ny - 1)) := ⟨Idx.up_cellBelow, Idx.up_cellBelow, Idx.down_cell⟩

theorem fteik3d_sweep_L97c8_ctx3 (dx i i1 j j1 k k1 nx ny nz sgntx sgnty sgntz sgnvx sgnvy sgnvz t1d2 te vref : Int) (_ : 2 ≤ nz) (_ : 2 ≤ nx) (_ : 2 ≤ ny) (_ : k ≤ (ny - 2)) (_ : (-1) < k) (_ : j ≤ (nx - 2)) (_ : (-1) < j) (_ : 1 ≤ i) (_ : i < nz) (_ : sgnvz = 1) (_ : sgnvx = 0) (_ : sgnvy = 0) (_ : sgntz = 1) (_ : sgntx = -1) (_ : sgnty = -1) (_ : i1 = (i - sgnvz)) (_ : j1 = (j - sgnvx)) (_ : k1 = (k - sgnvy)) (_ : t1d2 = (te + (dx * vref))) :
    (0 ≤ (max (i - 1) 0) ∧ (max (i - 1) 0) < (nz - 1)) ∧ (0 ≤ (max (j - 1) 0) ∧ (max (j - 1) 0) < (nx - 1)) ∧ (0 ≤ k1 ∧ k1 < (ny - 1)) := ⟨Idx.up_cellBelow, Idx.down_cellBelow, Idx.down_cell⟩

theorem fteik3d_sweep_L97c8_ctx4 (dx i i1 j j1 k k1 nx ny nz sgntx sgnty sgntz sgnvx sgnvy sgnvz t1d2 te vref : Int) (_ : 2 ≤ nz) (_ : 2 ≤ nx) (_ : 2 ≤ ny) (_ : 1 ≤ k) (_ : k < ny) (_ : 1 ≤ j) (_ : j < nx) (_ : i ≤ (nz - 2)) (_ : (-1) < i) (_ : sgnvz = 0) (_ : sgnvx = 1) (_ : sgnvy = 1) (_ : sgntz = -1) (_ : sgntx = 1) (_ : sgnty = 1) (_ : i1 = (i - sgnvz)) (_ : j1 = (j - sgnvx)) (_ : k1 = (k - sgnvy)) (_ : t1d2 = (te + (dx * vref))) :
    (0 ≤ (max (i - 1) 0) ∧ (max (i - 1) 0) < (nz - 1)) ∧ (0 ≤ (max (j - 1) 0) ∧ (max (j - 1) 0) < (nx - 1)) ∧ (0 ≤ k1 ∧ k1 < (ny - 1)) := ⟨Idx.down_cellBelow, Idx.up_cellBelow, Idx.up_cell⟩

theorem fteik3d_sweep_L97c8_ctx5 (dx i i1 j j1 k k1 nx ny nz sgntx sgnty sgntz sgnvx sgnvy sgnvz t1d2 te vref : Int) (_ : 2 ≤ nz) (_ : 2 ≤ nx) (_ : 2 ≤ ny) (_ : 1 ≤ k) (_ : k < ny) (_ : j ≤ (nx - 2)) (_ : (-1) < j) (_ : i ≤ (nz - 2)) (_ : (-1) < i) (_ : sgnvz = 0) (_ : sgnvx = 0) (_ : sgnvy = 1) (_ : sgntz = -1) (_ : sgntx = -1) (_ : sgnty = 1) (_ : i1 = (i - sgnvz)) (_ : j1 = (j - sgnvx)) (_ : k1 = (k - sgnvy)) (_ : t1d2 = (te + (dx * vref))) :
    (0 ≤ (max (i - 1) 0) ∧ (max (i - 1) 0) < (nz - 1)) ∧ (0 ≤ (max (j - 1) 0) ∧ (max (j - 1) 0) < (nx - 1)) ∧ (0 ≤ k1 ∧ k1 < (ny - 1)) := ⟨Idx.down_cellBelow, Idx.down_cellBelow, Idx.up_cell⟩

theorem fteik3d_sweep_L97c8_ctx6 (dx i i1 j j1 k k1 nx ny nz sgntx sgnty sgntz sgnvx sgnvy sgnvz t1d2 te vref : Int) (_ : 2 ≤ nz) (_ : 2 ≤ nx) (_ : 2 ≤ ny) (_ : k ≤ (ny - 2)) (_ : (-1) < k) (_ : 1 ≤ j) (_ : j < nx) (_ : i ≤ (nz - 2)) (_ : (-1) < i) (_ : sgnvz = 0) (_ : sgnvx = 1) (_ : sgnvy = 0) (_ : sgntz = -1) (_ : sgntx = 1) (_ : sgnty = -1) (_ : i1 = (i - sgnvz)) (_ : j1 = (j - sgnvx)) (_ : k1 = (k - sgnvy)) (_ : t1d2 = (te + (dx * vref))) :
    (0 ≤ (max (i - 1) 0) ∧ (max (i - 1) 0) < (nz - 1)) ∧ (0 ≤ (max (j - 1) 0) ∧ (max (j - 1) 0) < (nx - 1)) ∧ (0 ≤ k1 ∧ k1 < (ny - 1)) := ⟨Idx.down_cellBelow, Idx.up_cellBelow, Idx.down_cell⟩

theorem fteik3d_sweep_L97c8_ctx7 (dx i i1 j j1 k k1 nx ny nz sgntx sgnty sgntz sgnvx sgnvy sgnvz t1d2 te vref : Int) (_ : 2 ≤ nz) (_ : 2 ≤ nx) (_ : 2 ≤ ny) (_ : k ≤ (ny - 2)) (_ : (-1) < k) (_ : j ≤ (nx - 2)) (_ : (-1) < j) (_ : i ≤ (nz - 2)) (_ : (-1) < i) (_ : sgnvz = 0) (_ : sgnvx = 0) (_ : sgnvy = 0) (_ : sgntz = -1) (_ : sgntx = -1) (_ : sgnty = -1) (_ : i1 = (i - sgnvz)) (_ : j1 = (j - sgnvx)) (_ : k1 = (k - sgnvy)) (_ : t1d2 = (te + (dx * vref))) :
    (0 ≤ (max (i - 1) 0) ∧ (max (i - 1) 0) < (nz - 1)) ∧ (0 ≤ (max (j - 1) 0) ∧ (max (j - 1) 0) < (nx - 1)) ∧ (0 ≤ k1 ∧ k1 < (ny - 1)) := ⟨Idx.down_cellBelow, Idx.down_cellBelow, Idx.down_cell⟩

theorem fteik3d_sweep_L98c8_ctx0 (dx i i1 j j1 k k1 nx ny nz sgntx sgnty sgntz sgnvx sgnvy sgnvz t1d2 te vref : Int) (_ : 2 ≤ nz) (_ : 2 ≤ nx) (_ : 2 ≤ ny) (_ : 1 ≤ k) (_ : k < ny) (_ : 1 ≤ j) (_ : j < nx) (_ : 1 ≤ i) (_ : i < nz) (_ : sgnvz = 1) (_ : sgnvx = 1) (_ : sgnvy = 1) (_ : sgntz = 1) (_ : sgntx = 1) (_ : sgnty = 1) (_ : i1 = (i - sgnvz)) (_ : j1 = (j - sgnvx)) (_ : k1 = (k - sgnvy)) (_ : t1d2 = (te + (dx * vref))) :
    (0 ≤ (max (i - 1) 0) ∧ (max (i - 1) 0) < (nz - 1)) ∧ (0 ≤ (min j (nx - 2)) ∧ (min j (nx - 2)) < (nx - 1)) ∧ (0 ≤ k1 ∧ k1 < (ny - 1)) := ⟨Idx.up_cellBelow, Idx.up_cellAbove, Idx.up_cell⟩

theorem fteik3d_sweep_L98c8_ctx1 (dx i i1 j j1 k k1 nx ny nz sgntx sgnty sgntz sgnvx sgnvy sgnvz t1d2 te vref : Int) (_ : 2 ≤ nz) (_ : 2 ≤ nx) (_ : 2 ≤ ny) (_ : 1 ≤ k) (_ : k < ny) (_ : j ≤ (nx - 2)) (_ : (-1) < j) (_ : 1 ≤ i) (_ : i < nz) (_ : sgnvz = 1) (_ : sgnvx = 0) (_ : sgnvy = 1) (_ : sgntz = 1) (_ : sgntx = -1) (_ : sgnty = 1) (_ : i1 = (i - sgnvz)) (_ : j1 = (j - sgnvx)) (_ : k1 = (k - sgnvy)) (_ : t1d2 = (te + (dx * vref))) :
    (0 ≤ (max (i - 1) 0) ∧ (max (i - 1) 0) < (nz - 1)) ∧ (0 ≤ (min j (nx - 2)) ∧ (min j (nx - 2)) < (nx - 1)) ∧ (0 ≤ k1 ∧ k1 < (ny - 1)) := ⟨Idx.up_cellBelow, Idx.down_cellAbove, Idx.up_cell⟩

theorem fteik3d_sweep_L98c8_ctx2 (dx i i1 j j1 k k1 nx ny nz sgntx sgnty sgntz sgnvx sgnvy sgnvz t1d2 te vref : Int) (_ : 2 ≤ nz) (_ : 2 ≤ nx) (_ : 2 ≤ ny) (_ : k ≤ (ny - 2)) (_ : (-1) < k) (_ : 1 ≤ j) (_ : j < nx) (_ : 1 ≤ i) (_ : i < nz) (_ : sgnvz = 1) (_ : sgnvx = 1) (_ : sgnvy = 0) (_ : sgntz = 1) (_ : sgntx = 1) (_ : sgnty = -1) (_ : i1 = (i - sgnvz)) (_ : j1 = (j - sgnvx)) (_ : k1 = (k - sgnvy)) (_ : t1d2 = (te + (dx * vref))) :
    (0 ≤ (max (i - 1) 0) ∧ (max (i - 1) 0) < (nz - 1)) ∧ (0 ≤ (min j (nx - 2)) ∧ (min j (nx - 2)) < (nx - 1)) ∧ (0 ≤ k1 ∧ k1 < (ny - 1)) := ⟨Idx.up_cellBelow, Idx.up_cellAbove, Idx.down_cell⟩

theorem fteik3d_sweep_L98c8_ctx3 (dx i i1 j j1 k k1 nx ny nz sgntx sgnty sgntz sgnvx sgnvy sgnvz t1d2 te vref : Int) (_ : 2 ≤ nz) (_ : 2 ≤ nx) (_ : 2 ≤ ny) (_ : k ≤ (ny - 2)) (_ : (-1) < k) (_ : j ≤ (nx - 2)) (_ : (-1) < j) (_ : 1 ≤ i) (_ : i < nz) (_ : sgnvz = 1) (_ : sgnvx = 0) (_ : sgnvy = 0) (_ : sgntz = 1) (_ : sgntx = -1) (_ : sgnty = -1) (_ : i1 = (i - sgnvz)) (_ : j1 = (j - sgnvx)) (_ : k1 = (k - sgnvy)) (_ : t1d2 = (te + (dx * vref))) :
    (0 ≤ (max (i - 1) 0) ∧ (max (i - 1) 0) < (nz - 1)) ∧ (0 ≤ (min j (nx - 2)) ∧ (min j (nx - 2)) < (nx - 1)) ∧ (0 ≤ k1 ∧ k1 < (ny - 1)) := ⟨Idx.up_cellBelow, Idx.down_cellAbove, Idx.down_cell⟩

theorem fteik3d_sweep_L98c8_ctx4 (dx i i1 j j1 k k1 nx ny nz sgntx sgnty sgntz sgnvx sgnvy sgnvz t1d2 te vref : Int) (_ : 2 ≤ nz) (_ : 2 ≤ nx) (_ : 2 ≤ ny) (_ : 1 ≤ k) (_ : k < ny) (_ : 1 ≤ j) (_ : j < nx) (_ : i ≤ (nz - 2)) (_ : (-1) < i) (_ : sgnvz = 0) (_ : sgnvx = 1) (_ : sgnvy = 1) (_ : sgntz = -1) (_ : sgntx = 1) (_ : sgnty = 1) (_ : i1 = (i - sgnvz)) (_ : j1 = (j - sgnvx)) (_ : k1 = (k - sgnvy)) (_ : t1d2 = (te + (dx * vref))) :
    (0 ≤ (max (i - 1) 0) ∧ (max (i - 1) 0) < (nz - 1)) ∧ (0 ≤ (min j (nx - 2)) ∧ (min j (nx - 2)) < (nx - 1)) ∧ (0 ≤ k1 ∧ k1 < (ny - 1)) := ⟨Idx.down_cellBelow, Idx.up_cellAbove, Idx.up_cell⟩

theorem fteik3d_sweep_L98c8_ctx5 (dx i i1 j j1 k k1 nx ny nz sgntx sgnty sgntz sgnvx sgnvy sgnvz t1d2 te vref : Int) (_ : 2 ≤ nz) (_ : 2 ≤ nx) (_ : 2 ≤ ny) (_ : 1 ≤ k) (_ : k < ny) (_ : j ≤ (nx - 2)) (_ : (-1) < j) (_ : i ≤ (nz - 2)) (_ : (-1) < i) (_ : sgnvz = 0) (_ : sgnvx = 0) (_ : sgnvy = 1) (_ : sgntz = -1) (_ : sgntx = -1) (_ : sgnty = 1) (_ : i1 = (i - sgnvz)) (_ : j1 = (j - sgnvx)) (_ : k1 = (k - sgnvy)) (_ : t1d2 = (te + (dx * vref))) :
    (0 ≤ (max (i - 1) 0) ∧ (max (i - 1) 0) < (nz - 1)) ∧ (0 ≤ (min j (nx - 2)) ∧ (min j (nx - 2)) < (nx - 1)) ∧ (0 ≤ k1 ∧ k1 < (ny - 1)) := ⟨Idx.down_cellBelow, Idx.down_cellAbove, Idx.up_cell⟩

theorem fteik3d_sweep_L98c8_ctx6 (dx i i1 j j1 k k1 nx ny nz sgntx sgnty sgntz sgnvx sgnvy sgnvz t1d2 te vref : Int) (_ : 2 ≤ nz) (_ : 2 ≤ nx) (_ : 2 ≤ ny) (_ : k ≤ (ny - 2)) (_ : (-1) < k) (_ : 1 ≤ j) (_ : j < nx) (_ : i ≤ (nz - 2)) (_ : (-1) < i) (_ : sgnvz = 0) (_ : sgnvx = 1) (_ : sgnvy = 0) (_ : sgntz = -1) (_ : sgntx = 1) (_ : sgnty = -1) (_ : i1 = (i - sgnvz)) (_ : j1 = (j - sgnvx)) (_ : k1 = (k - sgnvy)) (_ : t1d2 = (te + (dx * vref))) :
    (0 ≤ (max (i - 1) 0) ∧ (max (i - 1) 0) < (nz - 1)) ∧ (0 ≤ (min j (nx - 2)) ∧ (min j (nx - 2)) < (nx - 1)) ∧ (0 ≤ k1 ∧ k1 < (ny - 1)) := ⟨Idx.down_cellBelow, Idx.up_cellAbove, Idx.down_cell⟩

theorem fteik3d_sweep_L98c8_ctx7 (dx i i1 j j1 k k1 nx ny nz sgntx sgnty sgntz sgnvx sgnvy sgnvz t1d2 te vref : Int) (_ : 2 ≤ nz) (_ : 2 ≤ nx) (_ : 2 ≤ ny) (_ : k ≤ (ny - 2)) (_ : (-1) < k) (_ : j ≤ (nx - 2)) (_ : (-1) < j) (_ : i ≤ (nz - 2)) (_ : (-1) < i) (_ : sgnvz = 0) (_ : sgnvx = 0) (_ : sgnvy = 0) (_ : sgntz = -1) (_ : sgntx = -1) (_ : sgnty = -1) (_ : i1 = (i - sgnvz)) (_ : j1 = (j - sgnvx)) (_ : k1 = (k - sgnvy)) (_ : t1d2 = (te + (dx * vref))) :
    (0 ≤ (max (i - 1) 0) ∧ (max (i - 1) 0) < (nz - 1)) ∧ (0 ≤ (min j (nx - 2)) ∧ (min j (nx - 2)) < (nx - 1)) ∧ (0 ≤ k1 ∧ k1 < (ny - 1)) := ⟨Idx.down_cellBelow, Idx.down_cellAbove, Idx.down_cell⟩

theorem fteik3d_sweep_L99c8_ctx0 (dx i i1 j j1 k k1 nx ny nz sgntx sgnty sgntz sgnvx sgnvy sgnvz t1d2 te vref : Int) (_ : 2 ≤ nz) (_ : 2 ≤ nx) (_ : 2 ≤ ny) (_ : 1 ≤ k) (_ : k < ny) (_ : 1 ≤ j) (_ : j < nx) (_ : 1 ≤ i) (_ : i < nz) (_ : sgnvz = 1) (_ : sgnvx = 1) (_ : sgnvy = 1) (_ : sgntz = 1) (_ : sgntx = 1) (_ : sgnty = 1) (_ : i1 = (i - sgnvz)) (_ : j1 = (j - sgnvx)) (_ : k1 = (k - sgnvy)) (_ : t1d2 = (te + (dx * vref))) :
    (0 ≤ (min i (nz - 2)) ∧ (min i (nz - 2)) < (nz - 1)) ∧ (0 ≤ (max (j - 1) 0) ∧ (max (j - 1) 0) < (nx - 1)) ∧ (0 ≤ k1 ∧ k1 < (ny - 1)) := ⟨Idx.up_cellAbove, Idx.up_cellBelow, Idx.up_cell⟩

theorem fteik3d_sweep_L99c8_ctx1 (dx i i1 j j1 k k1 nx ny nz sgntx sgnty sgntz sgnvx sgnvy sgnvz t1d2 te vref : Int) (_ : 2 ≤ nz) (_ : 2 ≤ nx) (_ : 2 ≤ ny) (_ : 1 ≤ k) (_ : k < ny) (_ : j ≤ (nx - 2)) (_ : (-1) < j) (_ : 1 ≤ i) (_ : i < nz) (_ : sgnvz = 1) (_ : sgnvx = 0) (_ : sgnvy = 1) (_ : sgntz = 1) (_ : sgntx = -1) (_ : sgnty = 1) (_ : i1 = (i - sgnvz)) (_ : j1 = (j - sgnvx)) (_ : k1 = (k - sgnvy)) (_ : t1d2 = (te + (dx * vref))) :
    (0 ≤ (min i (nz - 2)) ∧ (min i (nz - 2)) < (nz - 1)) ∧ (0 ≤ (max (j - 1) 0) ∧ (max (j - 1) 0) < (nx - 1)) ∧ (0 ≤ k1 ∧ k1 < (ny - 1)) := ⟨Idx.up_cellAbove, Idx.down_cellBelow, Idx.up_cell⟩

theorem fteik3d_sweep_L99c8_ctx2 (dx i i1 j j1 k k1 nx ny nz sgntx sgnty sgntz sgnvx sgnvy sgnvz t1d2 te vref : Int) (_ : 2 ≤ nz) (_ : 2 ≤ nx) (_ : 2 ≤ ny) (_ : k ≤ (ny - 2)) (_ : (-1) < k) (_ : 1 ≤ j) (_ : j < nx) (_ : 1 ≤ i) (_ : i < nz) (_ : sgnvz = 1) (_ : sgnvx = 1) (_ : sgnvy = 0) (_ : sgntz = 1) (_ : sgntx = 1) (_ : sgnty = -1) (_ : i1 = (i - sgnvz)) (_ : j1 = (j - sgnvx)) (_ : k1 = (k - sgnvy)) (_ : t1d2 = (te + (dx * vref))) :
    (0 ≤ (min i (nz - 2)) ∧ (min i (nz - 2)) < (nz - 1)) ∧ (0 ≤ (max (j - 1) 0) ∧ (max (j - 1) 0) < (nx - 1)) ∧ (0 ≤ k1 ∧ k1 < (ny - 1)) := ⟨Idx.up_cellAbove, Idx.up_cellBelow, Idx.down_cell⟩

theorem fteik3d_sweep_L99c8_ctx3 (dx i i1 j j1 k k1 nx ny nz sgntx sgnty sgntz sgnvx sgnvy sgnvz t1d2 te vref : Int) (_ : 2 ≤ nz) (_ : 2 ≤ nx) (_ : 2 ≤ ny) (_ : k ≤ (ny - 2)) (_ : (-1) < k) (_ : j ≤ (nx - 2)) (_ : (-1) < j) (_ : 1 ≤ i) (_ : i < nz) (_ : sgnvz = 1) (_ : sgnvx = 0) (_ : sgnvy = 0) (_ : sgntz = 1) (_ : sgntx = -1) (_ : sgnty = -1) (_ : i1 = (i - sgnvz)) (_ : j1 = (j - sgnvx)) (_ : k1 = (k - sgnvy)) (_ : t1d2 = (te + (dx * vref))) :
    (0 ≤ (min i (nz - 2)) ∧ (min i (nz - 2)) < (nz - 1)) ∧ (0 ≤ (max (j - 1) 0) ∧ (max (j - 1) 0) < (nx - 1)) ∧ (0 ≤ k1 ∧ k1 < (ny - 1)) := ⟨Idx.up_cellAbove, Idx.down_cellBelow, Idx.down_cell⟩

theorem fteik3d_sweep_L99c8_ctx4 (dx i i1 j j1 k k1 nx ny nz sgntx sgnty sgntz sgnvx sgnvy sgnvz t1d2 te vref : Int) (_ : 2 ≤ nz) (_ : 2 ≤ nx) (_ : 2 ≤ ny) (_ : 1 ≤ k) (_ : k < ny) (_ : 1 ≤ j) (_ : j < nx) (_ : i ≤ (nz - 2)) (_ : (-1) < i) (_ : sgnvz = 0) (_ : sgnvx = 1) (_ : sgnvy = 1) (_ : sgntz = -1) (_ : sgntx = 1) (_ : sgnty = 1) (_ : i1 = (i - sgnvz)) (_ : j1 = (j - sgnvx)) (_ : k1 = (k - sgnvy)) (_ : t1d2 = (te + (dx * vref))) :
    (0 ≤ (min i (nz - 2)) ∧ (min i (nz - 2)) < (nz - 1)) ∧ (0 ≤ (max (j - 1) 0) ∧ (max (j - 1) 0) < (nx - 1)) ∧ (0 ≤ k1 ∧ k1 < (ny - 1)) := ⟨Idx.down_cellAbove, Idx.up_cellBelow, Idx.up_cell⟩

theorem fteik3d_sweep_L99c8_ctx5 (dx i i1 j j1 k k1 nx ny nz sgntx sgnty sgntz sgnvx sgnvy sgnvz t1d2 te vref : Int) (_ : 2 ≤ nz) (_ : 2 ≤ nx) (_ : 2 ≤ ny) (_ : 1 ≤ k) (_ : k < ny) (_ : j ≤ (nx - 2)) (_ : (-1) < j) (_ : i ≤ (nz - 2)) (_ : (-1) < i) (_ : sgnvz = 0) (_ : sgnvx = 0) (_ : sgnvy = 1) (_ : sgntz = -1) (_ : sgntx = -1) (_ : sgnty = 1) (_ : i1 = (i - sgnvz)) (_ : j1 = (j - sgnvx)) (_ : k1 = (k - sgnvy)) (_ : t1d2 = (te + (dx * vref))) :
    (0 ≤ (min i (nz - 2)) ∧ (min i (nz - 2)) < (nz - 1)) ∧ (0 ≤ (max (j - 1) 0) ∧ (max (j - 1) 0) < (nx - 1)) ∧ (0 ≤ k1 ∧ k1 < (ny - 1)) := ⟨Idx.down_cellAbove, Idx.down_cellBelow, Idx.up_cell⟩

theorem fteik3d_sweep_L99c8_ctx6 (dx i i1 j j1 k k1 nx ny nz sgntx sgnty sgntz sgnvx sgnvy sgnvz t1d2 te vref : Int) (_ : 2 ≤ nz) (_ : 2 ≤ nx) (_ : 2 ≤ ny) (_ : k ≤ (ny - 2)) (_ : (-1) < k) (_ : 1 ≤ j) (_ : j < nx) (_ : i ≤ (nz - 2)) (_ : (-1) < i) (_ : sgnvz = 0) (_ : sgnvx = 1) (_ : sgnvy = 0) (_ : sgntz = -1) (_ : sgntx = 1) (_ : sgnty = -1) (_ : i1 = (i - sgnvz)) (_ : j1 = (j - sgnvx)) (_ : k1 = (k - sgnvy)) (_ : t1d2 = (te + (dx * vref))) :
    (0 ≤ (min i (nz - 2)) ∧ (min i (nz - 2)) < (nz - 1)) ∧ (0 ≤ (max (j - 1) 0) ∧ (max (j - 1) 0) < (nx - 1)) ∧ (0 ≤ k1 ∧ k1 < (ny - 1)) := ⟨Idx.down_cellAbove, Idx.up_cellBelow, Idx.down_cell⟩

theorem fteik3d_sweep_L99c8_ctx7 (dx i i1 j j1 k k1 nx ny nz sgntx sgnty sgntz sgnvx sgnvy sgnvz t1d2 te vref : Int) (_ : 2 ≤ nz) (_ : 2 ≤ nx) (_ : 2 ≤ ny) (_ : k ≤ (ny - 2)) (_ : (-1) < k) (_ : j ≤ (nx - 2)) (_ : (-1) < j) (_ : i ≤ (nz - 2)) (_ : (-1) < i) (_ : sgnvz = 0) (_ : sgnvx = 0) (_ : sgnvy = 0) (_ : sgntz = -1) (_ : sgntx = -1) (_ : sgnty = -1) (_ : i1 = (i - sgnvz)) (_ : j1 = (j - sgnvx)) (_ : k1 = (k - sgnvy)) (_ : t1d2 = (te + (dx * vref))) :
    (0 ≤ (min i (nz - 2)) ∧ (min i (nz - 2)) < (nz - 1)) ∧ (0 ≤ (max (j - 1) 0) ∧ (max (j - 1) 0) < (nx - 1)) ∧ (0 ≤ k1 ∧ k1 < (ny - 1)) := ⟨Idx.down_cellAbove, Idx.down_cellBelow, Idx.down_cell⟩

theorem fteik3d_sweep_L100c8_ctx0 (dx i i1 j j1 k k1 nx ny nz sgntx sgnty sgntz sgnvx sgnvy sgnvz t1d2 te vref : Int) (_ : 2 ≤ nz) (_ : 2 ≤ nx) (_ : 2 ≤ ny) (_ : 1 ≤ k) (_ : k < ny) (_ : 1 ≤ j) (_ : j < nx) (_ : 1 ≤ i) (_ : i < nz) (_ : sgnvz = 1) (_ : sgnvx = 1) (_ : sgnvy = 1) (_ : sgntz = 1) (_ : sgntx = 1) (_ : sgnty = 1) (_ : i1 = (i - sgnvz)) (_ : j1 = (j - sgnvx)) (_ : k1 = (k - sgnvy)) (_ : t1d2 = (te + (dx * vref))) :
    (0 ≤ (min i (nz - 2)) ∧ (min i (nz - 2)) < (nz - 1)) ∧ (0 ≤ (min j (nx - 2)) ∧ (min j (nx - 2)) < (nx - 1)) ∧ (0 ≤ k1 ∧ k1 < (ny - 1)) := ⟨Idx.up_cellAbove, Idx.up_cellAbove, Idx.up_cell⟩

theorem fteik3d_sweep_L100c8_ctx1 (dx i i1 j j1 k k1 nx ny nz sgntx sgnty sgntz sgnvx sgnvy sgnvz t1d2 te vref : Int) (_ : 2 ≤ nz) (_ : 2 ≤ nx) (_ : 2 ≤ ny) (_ : 1 ≤ k) (_ : k < ny) (_ : j ≤ (nx - 2)) (_ : (-1) < j) (_ : 1 ≤ i) (_ : i < nz) (_ : sgnvz = 1) (_ : sgnvx = 0) (_ : sgnvy = 1) (_ : sgntz = 1) (_ : sgntx = -1) (_ : sgnty = 1) (_ : i1 = (i - sgnvz)) (_ : j1 = (j - sgnvx)) (_ : k1 = (k - sgnvy)) (_ : t1d2 = (te + (dx * vref))) :
    (0 ≤ (min i (nz - 2)) ∧ (min i (nz - 2)) < (nz - 1)) ∧ (0 ≤ (min j (nx - 2)) ∧ (min j (nx - 2)) < (nx - 1)) ∧ (0 ≤ k1 ∧ k1 < (ny - 1)) := ⟨Idx.up_cellAbove, Idx.down_cellAbove, Idx.up_cell⟩

theorem fteik3d_sweep_L100c8_ctx2 (dx i i1 j j1 k k1 nx ny nz sgntx sgnty sgntz sgnvx sgnvy sgnvz t1d2 te vref : Int) (_ : 2 ≤ nz) (_ : 2 ≤ nx) (_ : 2 ≤ ny) (_ : k ≤ (ny - 2)) (_ : (-1) < k) (_ : 1 ≤ j) (_ : j < nx) (_ : 1 ≤ i) (_ : i < nz) (_ : sgnvz = 1) (_ : sgnvx = 1) (_ : sgnvy = 0) (_ : sgntz = 1) (_ : sgntx = 1) (_ : sgnty = -1) (_ : i1 = (i - sgnvz)) (_ : j1 = (j - sgnvx)) (_ : k1 = (k - sgnvy)) (_ : t1d2 = (te + (dx * vref))) :
    (0 ≤ (min i (nz - 2)) ∧ (min i (nz - 2)) < (nz - 1)) ∧ (0 ≤ (min j (nx - 2)) ∧ (min j (nx - 2)) < (nx - 1)) ∧ (0 ≤ k1 ∧ k1 < (ny - 1)) := ⟨Idx.up_cellAbove, Idx.up_cellAbove, Idx.down_cell⟩

theorem fteik3d_sweep_L100c8_ctx3 (dx i i1 j j1 k k1 nx ny nz sgntx sgnty sgntz sgnvx sgnvy sgnvz t1d2 te vref : Int) (_ : 2 ≤ nz) (_ : 2 ≤ nx) (_ : 2 ≤ ny) (_ : k ≤ (ny - 2)) (_ : (-1) < k) (_ : j ≤ (nx - 2)) (_ : (-1) < j) (_ : 1 ≤ i) (_ : i < nz) (_ : sgnvz = 1) (_ : sgnvx = 0) (_ : sgnvy = 0) (_ : sgntz = 1) (_ : sgntx = -1) (_ : sgnty = -1) (_ : i1 = (i - sgnvz)) (_ : j1 = (j - sgnvx)) (_ : k1 = (k - sgnvy)) (_ : t1d2 = (te + (dx * vref))) :
    (0 ≤ (min i (nz - 2)) ∧ (min i (nz - 2)) < (nz - 1)) ∧ (0 ≤ (min j (nx - 2)) ∧ (min j (nx - 2)) < (nx - 1)) ∧ (0 ≤ k1 ∧ k1 < (ny - 1)) := ⟨Idx.up_cellAbove, Idx.down_cellAbove, Idx.down_cell⟩

theorem fteik3d_sweep_L100c8_ctx4 (dx i i1 j j1 k k1 nx ny nz sgntx sgnty sgntz sgnvx sgnvy sgnvz t1d2 te vref : Int) (_ : 2 ≤ nz) (_ : 2 ≤ nx) (_ : 2 ≤ ny) (_ : 1 ≤ k) (_ : k < ny) (_ : 1 ≤ j) (_ : j < nx) (_ : i ≤ (nz - 2)) (_ : (-1) < i) (_ : sgnvz = 0) (_ : sgnvx = 1) (_ : sgnvy = 1) (_ : sgntz = -1) (_ : sgntx = 1) (_ : sgnty = 1) (_ : i1 = (i - sgnvz)) (_ : j1 = (j - sgnvx)) (_ : k1 = (k - sgnvy)) (_ : t1d2 = (te + (dx * vref))) :
    (0 ≤ (min i (nz - 2)) ∧ (min i (nz - 2)) < (nz - 1)) ∧ (0 ≤ (min j (nx - 2)) ∧ (min j (nx - 2)) < (nx - 1)) ∧ (0 ≤ k1 ∧ k1 < (ny - 1)) := ⟨Idx.down_cellAbove, Idx.up_cellAbove, Idx.up_cell⟩

theorem fteik3d_sweep_L100c8_ctx5 (dx i i1 j j1 k k1 nx ny nz sgntx sgnty sgntz sgnvx sgnvy sgnvz t1d2 te vref : Int) (_ : 2 ≤ nz) (_ : 2 ≤ nx) (_ : 2 ≤ ny) (_ : 1 ≤ k) (_ : k < ny) (_ : j ≤ (nx - 2)) (_ : (-1) < j) (_ : i ≤ (nz - 2)) (_ : (-1) < i) (_ : sgnvz = 0) (_ : sgnvx = 0) (_ : sgnvy = 1) (_ : sgntz = -1) (_ : sgntx = -1) (_ : sgnty = 1) (_ : i1 = (i - sgnvz)) (_ : j1 = (j - sgnvx)) (_ : k1 = (k - sgnvy)) (_ : t1d2 = (te + (dx * vref))) :
    (0 ≤ (min i (nz - 2)) ∧ (min i (nz - 2)) < (nz - 1)) ∧ (0 ≤ (min j (nx - 2)) ∧ (min j (nx - 2)) < (nx - 1)) ∧ (0 ≤ k1 ∧ k1 < (ny - 1)) := ⟨Idx.down_cellAbove, Idx.down_cellAbove, Idx.up_cell⟩

theorem fteik3d_sweep_L100c8_ctx6 (dx i i1 j j1 k k1 nx ny nz sgntx sgnty sgntz sgnvx sgnvy sgnvz t1d2 te vref : Int) (_ : 2 ≤ nz) (_ : 2 ≤ nx) (_ : 2 ≤ ny) (_ : k ≤ (ny - 2)) (_ : (-1) < k) (_ : 1 ≤ j) (_ : j < nx) (_ : i ≤ (nz - 2)) (_ : (-1) < i) (_ : sgnvz = 0) (_ : sgnvx = 1) (_ : sgnvy = 0) (_ : sgntz = -1) (_ : sgntx = 1) (_ : sgnty = -1) (_ : i1 = (i - sgnvz)) (_ : j1 = (j - sgnvx)) (_ : k1 = (k - sgnvy)) (_ : t1d2 = (te + (dx * vref))) :
    (0 ≤ (min i (nz - 2)) ∧ (min i (nz - 2)) < (nz - 1)) ∧ (0 ≤ (min j (nx - 2)) ∧ (min j (nx - 2)) < (nx - 1)) ∧ (0 ≤ k1 ∧ k1 < (ny - 1)) := ⟨Idx.down_cellAbove, Idx.up_cellAbove, Idx.down_cell⟩

theorem fteik3d_sweep_L100c8_ctx7 (dx i i1 j j1 k k1 nx ny nz sgntx sgnty sgntz sgnvx sgnvy sgnvz t1d2 te vref : Int) (_ : 2 ≤ nz) (_ : 2 ≤ nx) (_ : 2 ≤ ny) (_ : k ≤ (ny - 2)) (_ : (-1) < k) (_ : j ≤ (nx - 2)) (_ : (-1) < j) (_ : i ≤ (nz - 2)) (_ : (-1) < i) (_ : sgnvz = 0) (_ : sgnvx = 0) (_ : sgnvy = 0) (_ : sgntz = -1) (_ : sgntx = -1) (_ : sgnty = -1) (_ : i1 = (i - sgnvz)) (_ : j1 = (j - sgnvx)) (_ : k1 = (k - sgnvy)) (_ : t1d2 = (te + (dx * vref))) :
    (0 ≤ (min i (nz - 2)) ∧ (min i (nz - 2)) < (nz - 1)) ∧ (0 ≤ (min j (nx - 2)) ∧ (min j (nx - 2)) < (nx - 1)) ∧ (0 ≤ k1 ∧ k1 < (ny - 1)) := ⟨Idx.down_cellAbove, Idx.down_cellAbove, Idx.down_cell⟩

theorem fteik3d_sweep_L109c15_ctx0 (Big dy i i1 j j1 k k1 nx ny nz sgntx sgnty sgntz sgnvx sgnvy sgnvz t1d3 t2d1 tn vref : Int) (_ : 2 ≤ nz) (_ : 2 ≤ nx) (_ : 2 ≤ ny) (_ : 1 ≤ k) (_ : k < ny) (_ : 1 ≤ j) (_ : j < nx) (_ : 1 ≤ i) (_ : i < nz) (_ : sgnvz = 1) (_ : sgnvx = 1) (_ : sgnvy = 1) (_ : sgntz = 1) (_ : sgntx = 1) (_ : sgnty = 1) (_ : i1 = (i - sgnvz)) (_ : j1 = (j - sgnvx)) (_ : k1 = (k - sgnvy)) (_ : t1d3 = (tn + (dy * vref))) (_ : t2d1 = Big) :
    (0 ≤ i1 ∧ i1 < (nz - 1)) ∧ (0 ≤ j1 ∧ j1 < (nx - 1)) ∧ (0 ≤ (max (k - 1) 0) ∧ (max (k - 1) 0) < (ny - 1)) := ⟨Idx.up_cell, Idx.up_cell, Idx.up_cellBelow⟩

theorem fteik3d_sweep_L109c15_ctx1 (Big dy i i1 j j1 k k1 nx ny nz sgntx sgnty sgntz sgnvx sgnvy sgnvz t1d3 t2d1 tn vref : Int) (_ : 2 ≤ nz) (_ : 2 ≤ nx) (_ : 2 ≤ ny) (_ : 1 ≤ k) (_ : k < ny) (_ : j ≤ (nx - 2)) (_ : (-1) < j) (_ : 1 ≤ i) (_ : i < nz) (_ : sgnvz = 1) (_ : sgnvx = 0) (_ : sgnvy = 1) (_ : sgntz = 1) (_ : sgntx = -1) (_ : sgnty = 1) (_ : i1 = (i - sgnvz)) (_ : j1 = (j - sgnvx)) (_ : k1 = (k - sgnvy)) (_ : t1d3 = (tn + (dy * vref))) (_ : t2d1 = Big) :
    (0 ≤ i1 ∧ i1 < (nz - 1)) ∧ (0 ≤ j1 ∧ j1 < (nx - 1)) ∧ (0 ≤ (max (k - 1) 0) ∧ (max (k - 1) 0) < (ny - 1)) := ⟨Idx.up_cell, Idx.down_cell, Idx.up_cellBelow⟩

theorem fteik3d_sweep_L109c15_ctx2 (Big dy i i1 j j1 k k1 nx ny nz sgntx sgnty sgntz sgnvx sgnvy sgnvz t1d3 t2d1 tn vref : Int) (_ : 2 ≤ nz) (_ : 2 ≤ nx) (_ : 2 ≤ ny) (_ : k ≤ (ny - 2)) (_ : (-1) < k) (_ : 1 ≤ j) (_ : j < nx) (_ : 1 ≤ i) (_ : i < nz) (_ : sgnvz = 1) (_ : sgnvx = 1) (_ : sgnvy = 0) (_ : sgntz = 1) (_ : sgntx = 1) (_ : sgnty = -1) (_ : i1 = (i - sgnvz)) (_ : j1 = (j - sgnvx)) (_ : k1 = (k - sgnvy)) (_ : t1d3 = (tn + (dy * vref))) (_ : t2d1 = Big) :
    (0 ≤ i1 ∧ i1 < (nz - 1)) ∧ (0 ≤ j1 ∧ j1 < (nx - 1)) ∧ (0 ≤ (max (k - 1) 0) ∧ (max (k - 1) 0) < (ny - 1)) := ⟨Idx.up_cell, Idx.up_cell, Idx.down_cellBelow⟩

theorem fteik3d_sweep_L109c15_ctx3 (Big dy i i1 j j1 k k1 nx ny nz sgntx sgnty sgntz sgnvx sgnvy sgnvz t1d3 t2d1 tn vref : Int) (_ : 2 ≤ nz) (_ : 2 ≤ nx) (_ : 2 ≤ ny) (_ : k ≤ (ny - 2)) (_ : (-1) < k) (_ : j ≤ (nx - 2)) (_ : (-1) < j) (_ : 1 ≤ i) (_ : i < nz) (_ : sgnvz = 1) (_ : sgnvx = 0) (_ : sgnvy = 0) (_ : sgntz = 1) (_ : sgntx = -1) (_ : sgnty = -1) (_ : i1 = (i - sgnvz)) (_ : j1 = (j - sgnvx)) (_ : k1 = (k - sgnvy)) (_ : t1d3 = (tn + (dy * vref))) (_ : t2d1 = Big) :
    (0 ≤ i1 ∧ i1 < (nz - 1)) ∧ (0 ≤ j1 ∧ j1 < (nx - 1)) ∧ (0 ≤ (max (k - 1) 0) ∧ (max (k - 1) 0) < (ny - 1)) := ⟨Idx.up_cell, Idx.down_cell, Idx.down_cellBelow⟩

theorem fteik3d_sweep_L109c15_ctx4 (Big dy i i1 j j1 k k1 nx ny nz sgntx sgnty sgntz sgnvx sgnvy sgnvz t1d3 t2d1 tn vref : Int) (_ : 2 ≤ nz) (_ : 2 ≤ nx) (_ : 2 ≤ ny) (_ : 1 ≤ k) (_ : k < ny) (_ : 1 ≤ j) (_ : j < nx) (_ : i ≤ (nz - 2)) (_ : (-1) < i) (_ : sgnvz = 0) (_ : sgnvx = 1) (_ : sgnvy = 1) (_ : sgntz = -1) (_ : sgntx = 1) (_ : sgnty = 1) (_ : i1 = (i - sgnvz)) (_ : j1 = (j - sgnvx)) (_ : k1 = (k - sgnvy)) (_ : t1d3 = (tn + (dy * vref))) (_ : t2d1 = Big) :
    (0 ≤ i1 ∧ i1 < (nz - 1)) ∧ (0 ≤ j1 ∧ j1 < (nx - 1)) ∧ (0 ≤ (max (k - 1) 0) ∧ (max (k - 1) 0) < (ny - 1)) := ⟨Idx.down_cell, Idx.up_cell, Idx.up_cellBelow⟩

theorem fteik3d_sweep_L109c15_ctx5 (Big dy i i1 j j1 k k1 nx ny nz sgntx sgnty sgntz sgnvx sgnvy sgnvz t1d3 t2d1 tn vref : Int) (_ : 2 ≤ nz) (_ : 2 ≤ nx) (_ : 2 ≤ ny) (_ : 1 ≤ k) (_ : k < ny) (_ : j ≤ (nx - 2)) (_ : (-1) < j) (_ : i ≤ (nz - 2)) (_ : (-1) < i) (_ : sgnvz = 0) (_ : sgnvx = 0) (_ : sgnvy = 1) (_ : sgntz = -1) (_ : sgntx = -1) (_ : sgnty = 1) (_ : i1 = (i - sgnvz)) (_ : j1 = (j - sgnvx)) (_ : k1 = (k - sgnvy)) (_ : t1d3 = (tn + (dy * vref))) (_ : t2d1 = Big) :
    (0 ≤ i1 ∧ i1 < (nz - 1)) ∧ (0 ≤ j1 ∧ j1 < (nx - 1)) ∧ (0 ≤ (max (k - 1) 0) ∧ (max (k - 1) 0) < (ny - 1)) := ⟨Idx.down_cell, Idx.down_cell, Idx.up_cellBelow⟩

theorem fteik3d_sweep_L109c15_ctx6 (Big dy i i1 j j1 k k1 nx ny nz sgntx sgnty sgntz sgnvx sgnvy sgnvz t1d3 t2d1 tn vref : Int) (_ : 2 ≤ nz) (_ : 2 ≤ nx) (_ : 2 ≤ ny) (_ : k ≤ (ny - 2)) (_ : (-1) < k) (_ : 1 ≤ j) (_ : j < nx) (_ : i ≤ (nz - 2)) (_ : (-1) < i) (_ : sgnvz = 0) (_ : sgnvx = 1) (_ : sgnvy = 0) (_ : sgntz = -1) (_ : sgntx = 1) (_ : sgnty = -1) (_ : i1 = (i - sgnvz)) (_ : j1 = (j - sgnvx)) (_ : k1 = (k - sgnvy)) (_ : t1d3 = (tn + (dy * vref))) (_ : t2d1 = Big) :
    (0 ≤ i1 ∧ i1 < (nz - 1)) ∧ (0 ≤ j1 ∧ j1 < (nx - 1)) ∧ (0 ≤ (max (k - 1) 0) ∧ (max (k - 1) 0) < (ny - 1)) := ⟨Idx.down_cell, Idx.up_cell, Idx.down_cellBelow⟩

theorem fteik3d_sweep_L109c15_ctx7 (Big dy i i1 j j1 k k1 nx ny nz sgntx sgnty sgntz sgnvx sgnvy sgnvz t1d3 t2d1 tn vref : Int) (_ : 2 ≤ nz) (_ : 2 ≤ nx) (_ : 2 ≤ ny) (_ : k ≤ (ny - 2)) (_ : (-1) < k) (_ : j ≤ (nx - 2)) (_ : (-1) < j) (_ : i ≤ (nz - 2)) (_ : (-1) < i) (_ : sgnvz = 0) (_ : sgnvx = 0) (_ : sgnvy = 0) (_ : sgntz = -1) (_ : sgntx = -1) (_ : sgnty = -1) (_ : i1 = (i - sgnvz)) (_ : j1 = (j - sgnvx)) (_ : k1 = (k - sgnvy)) (_ : t1d3 = (tn + (dy * vref))) (_ : t2d1 = Big) :
    (0 ≤ i1 ∧ i1 < (nz - 1)) ∧ (0 ≤ j1 ∧ j1 < (nx - 1)) ∧ (0 ≤ (max (k - 1) 0) ∧ (max (k - 1) 0) < (ny - 1)) := ⟨Idx.down_cell, Idx.down_cell, Idx.down_cellBelow⟩

theorem fteik3d_sweep_L109c44_ctx0 (Big dy i i1 j j1 k k1 nx ny nz sgntx sgnty sgntz sgnvx sgnvy sgnvz t1d3 t2d1 tn vref : Int) (_ : 2 ≤ nz) (_ : 2 ≤ nx) (_ : 2 ≤ ny) (_ : 1 ≤ k) (_ : k < ny) (_ : 1 ≤ j) (_ : j < nx) (_ : 1 ≤ i) (_ : i < nz) (_ : sgnvz = 1) (_ : sgnvx = 1) (_ : sgnvy = 1) (_ : sgntz = 1) (_ : sgntx = 1) (_ : sgnty = 1) (_ : i1 = (i - sgnvz)) (_ : j1 = (j - sgnvx)) (_ : k1 = (k - sgnvy)) (_ : t1d3 = (tn + (dy * vref))) (_ : t2d1 = Big) :
    (0 ≤ i1 ∧ i1 < (nz - 1)) ∧ (0 ≤ j1 ∧ j1 < (nx - 1)) ∧ (0 ≤ (min k (ny - 2)) ∧ (min k (ny - 2)) < (ny - 1)) := ⟨Idx.up_cell, Idx.up_cell, Idx.up_cellAbove⟩

theorem fteik3d_sweep_L109c44_ctx1 (Big dy i i1 j j1 k k1 nx ny nz sgntx sgnty sgntz sgnvx sgnvy sgnvz t1d3 t2d1 tn vref : Int) (_ : 2 ≤ nz) (_ : 2 ≤ nx) (_ : 2 ≤ ny) (_ : 1 ≤ k) (_ : k < ny) (_ : j ≤ (nx - 2)) (_ : (-1) < j) (_ : 1 ≤ i) (_ : i < nz) (_ : sgnvz = 1) (_ : sgnvx = 0) (_ : sgnvy = 1) (_ : sgntz = 1) (_ : sgntx = -1) (_ : sgnty = 1) (_ : i1 = (i - sgnvz)) (_ : j1 = (j - sgnvx)) (_ : k1 = (k - sgnvy)) (_ : t1d3 = (tn + (dy * vref))) (_ : t2d1 = Big) :
    (0 ≤ i1 ∧ i1 < (nz - 1)) ∧ (0 ≤ j1 ∧ j1 < (nx - 1)) ∧ (0 ≤ (min k (ny - 2)) ∧ (min k (ny - 2)) < (ny - 1)) := ⟨Idx.up_cell, Idx.down_cell, Idx.up_cellAbove⟩

theorem fteik3d_sweep_L109c44_ctx2 (Big dy i i1 j j1 k k1 nx ny nz sgntx sgnty sgntz sgnvx sgnvy sgnvz t1d3 t2d1 tn vref : Int) (_ : 2 ≤ nz) (_ : 2 ≤ nx) (_ : 2 ≤ ny) (_ : k ≤ (ny - 2)) (_ : (-1) < k) (_ : 1 ≤ j) (_ : j < nx) (_ : 1 ≤ i) (_ : i < nz) (_ : sgnvz = 1) (_ : sgnvx = 1) (_ : sgnvy = 0) (_ : sgntz = 1) (_ : sgntx = 1) (_ : sgnty = -1) (_ : i1 = (i - sgnvz)) (_ : j1 = (j - sgnvx)) (_ : k1 = (k - sgnvy)) (_ : t1d3 = (tn + (dy * vref))) (_ : t2d1 = Big) :
    (0 ≤ i1 ∧ i1 < (nz - 1)) ∧ (0 ≤ j1 ∧ j1 < (nx - 1)) ∧ (0 ≤ (min k (ny - 2)) ∧ (min k (ny - 2)) < (ny - 1)) := ⟨Idx.up_cell, Idx.up_cell, Idx.down_cellAbove⟩

theorem fteik3d_sweep_L109c44_ctx3 (Big dy i i1 j j1 k k1 nx ny nz sgntx sgnty sgntz sgnvx sgnvy sgnvz t1d3 t2d1 tn vref : Int) (_ : 2 ≤ nz) (_ : 2 ≤ nx) (_ : 2 ≤ ny) (_ : k ≤ (ny - 2)) (_ : (-1) < k) (_ : j ≤ (nx - 2)) (_ : (-1) < j) (_ : 1 ≤ i) (_ : i < nz) (_ : sgnvz = 1) (_ : sgnvx = 0) (_ : sgnvy = 0) (_ : sgntz = 1) (_ : sgntx = -1) (_ : sgnty = -1) (_ : i1 = (i - sgnvz)) (_ : j1 = (j - sgnvx)) (_ : k1 = (k - sgnvy)) (_ : t1d3 = (tn + (dy * vref))) (_ : t2d1 = Big) :
    (0 ≤ i1 ∧ i1 < (nz - 1)) ∧ (0 ≤ j1 ∧ j1 < (nx - 1)) ∧ (0 ≤ (min k (ny - 2)) ∧ (min k (ny - 2)) < (ny - 1)) := ⟨Idx.up_cell, Idx.down_cell, Idx.down_cellAbove⟩

theorem fteik3d_sweep_L109c44_ctx4 (Big dy i i1 j j1 k k1 nx ny nz sgntx sgnty sgntz sgnvx sgnvy sgnvz t1d3 t2d1 tn vref : Int) (_ : 2 ≤ nz) (_ : 2 ≤ nx) (_ : 2 ≤ ny) (_ : 1 ≤ k) (_ : k < ny) (_ : 1 ≤ j) (_ : j < nx) (_ : i ≤ (nz - 2)) (_ : (-1) < i) (_ : sgnvz = 0) (_ : sgnvx = 1) (_ : sgnvy = 1) (_ : sgntz = -1) (_ : sgntx = 1) (_ : sgnty = 1) (_ : i1 = (i - sgnvz)) (_ : j1 = (j - sgnvx)) (_ : k1 = (k - sgnvy)) (_ : t1d3 = (tn + (dy * vref))) (_ : t2d1 = Big) :
    (0 ≤ i1 ∧ i1 < (nz - 1)) ∧ (0 ≤ j1 ∧ j1 < (nx - 1)) ∧ (0 ≤ (min k (ny - 2)) ∧ (min k (ny - 2)) < (ny - 1)) := ⟨Idx.down_cell, Idx.up_cell, Idx.up_cellAbove⟩

theorem fteik3d_sweep_L109c44_ctx5 (Big dy i i1 j j1 k k1 nx ny nz sgntx sgnty sgntz sgnvx sgnvy sgnvz t1d3 t2d1 tn vref : Int) (_ : 2 ≤ nz) (_ : 2 ≤ nx) (_ : 2 ≤ ny) (_ : 1 ≤ k) (_ : k < ny) (_ : j ≤ (nx - 2)) (_ : (-1) < j) (_ : i ≤ (nz - 2)) (_ : (-1) < i) (_ : sgnvz = 0) (_ : sgnvx = 0) (_ : sgnvy = 1) (_ : sgntz = -1) (_ : sgntx = -1) (_ : sgnty = 1) (_ : i1 = (i - sgnvz)) (_ : j1 = (j - sgnvx)) (_ : k1 = (k - sgnvy)) (_ : t1d3 = (tn + (dy * vref))) (_ : t2d1 = Big) :
    (0 ≤ i1 ∧ i1 < (nz - 1)) ∧ (0 ≤ j1 ∧ j1 < (nx - 1)) ∧ (0 ≤ (min k (ny - 2)) ∧ (min k (ny - 2)) < (ny - 1)) := ⟨Idx.down_cell, Idx.down_cell, Idx.up_cellAbove⟩

theorem fteik3d_sweep_L109c44_ctx6 (Big dy i i1 j j1 k k1 nx ny nz sgntx sgnty sgntz sgnvx sgnvy sgnvz t1d3 t2d1 tn vref : Int) (_ : 2 ≤ nz) (_ : 2 ≤ nx) (_ : 2 ≤ ny) (_ : k ≤ (ny - 2)) (_ : (-1) < k) (_ : 1 ≤ j) (_ : j < nx) (_ : i ≤ (nz - 2)) (_ : (-1) < i) (_ : sgnvz = 0) (_ : sgnvx = 1) (_ : sgnvy = 0) (_ : sgntz = -1) (_ : sgntx = 1) (_ : sgnty = -1) (_ : i1 = (i - sgnvz)) (_ : j1 = (j - sgnvx)) (_ : k1 = (k - sgnvy)) (_ : t1d3 = (tn + (dy * vref))) (_ : t2d1 = Big) :
    (0 ≤ i1 ∧ i1 < (nz - 1)) ∧ (0 ≤ j1 ∧ j1 < (nx - 1)) ∧ (0 ≤ (min k (ny - 2)) ∧ (min k (ny - 2)) < (ny - 1)) := ⟨Idx.down_cell, Idx.up_cell, Idx.down_cellAbove⟩

theorem fteik3d_sweep_L109c44_ctx7 (Big dy i i1 j j1 k k1 nx ny nz sgntx sgnty sgntz sgnvx sgnvy sgnvz t1d3 t2d1 tn vref : Int) (_ : 2 ≤ nz) (_ : 2 ≤ nx) (_ : 2 ≤ ny) (_ : k ≤ (ny - 2)) (_ : (-1) < k) (_ : j ≤ (nx - 2)) (_ : (-1) < j) (_ : i ≤ (nz - 2)) (_ : (-1) < i) (_ : sgnvz = 0) (_ : sgnvx = 0) (_ : sgnvy = 0) (_ : sgntz = -1) (_ : sgntx = -1) (_ : sgnty = -1) (_ : i1 = (i - sgnvz)) (_ : j1 = (j - sgnvx)) (_ : k1 = (k - sgnvy)) (_ : t1d3 = (tn + (dy * vref))) (_ : t2d1 = Big) :
    (0 ≤ i1 ∧ i1 < (nz - 1)) ∧ (0 ≤ j1 ∧ j1 < (nx - 1)) ∧ (0 ≤ (min k (ny - 2)) ∧ (min k (ny - 2)) < (ny - 1)) := ⟨Idx.down_cell, Idx.down_cell, Idx.down_cellAbove⟩

theorem fteik3d_sweep_L121c15_ctx0 (Big i i1 j j1 k k1 nx ny nz sgntx sgnty sgntz sgnvx sgnvy sgnvz t2d2 : Int) (_ : 2 ≤ nz) (_ : 2 ≤ nx) (_ : 2 ≤ ny) (_ : 1 ≤ k) (_ : k < ny) (_ : 1 ≤ j) (_ : j < nx) (_ : 1 ≤ i) (_ : i < nz) (_ : sgnvz = 1) (_ : sgnvx = 1) (_ : sgnvy = 1) (_ : sgntz = 1) (_ : sgntx = 1) (_ : sgnty = 1) (_ : i1 = (i - sgnvz)) (_ : j1 = (j - sgnvx)) (_ : k1 = (k - sgnvy)) (_ : t2d2 = Big) :
    (0 ≤ i1 ∧ i1 < (nz - 1)) ∧ (0 ≤ (max (j - 1) 0) ∧ (max (j - 1) 0) < (nx - 1)) ∧ (0 ≤ k1 ∧ k1 < (ny - 1)) := ⟨Idx.up_cell, Idx.up_cellBelow, Idx.up_cell⟩

theorem fteik3d_sweep_L121c15_ctx1 (Big i i1 j j1 k k1 nx ny nz sgntx sgnty sgntz sgnvx sgnvy sgnvz t2d2 : Int) (_ : 2 ≤ nz) (_ : 2 ≤ nx) (_ : 2 ≤ ny) (_ : 1 ≤ k) (_ : k < ny) (_ : j ≤ (nx - 2)) (_ : (-1) < j) (_ : 1 ≤ i) (_ : i < nz) (_ : sgnvz = 1) (_ : sgnvx = 0) (_ : sgnvy = 1) (_ : sgntz = 1) (_ : sgntx = -1) (_ : sgnty = 1) (_ : i1 = (i - sgnvz)) (_ : j1 = (j - sgnvx)) (_ : k1 = (k - sgnvy)) (_ : t2d2 = Big) :
    (0 ≤ i1 ∧ i1 < (nz - 1)) ∧ (0 ≤ (max (j - 1) 0) ∧ (max (j - 1) 0) < (nx - 1)) ∧ (0 ≤ k1 ∧ k1 < (ny - 1)) := ⟨Idx.up_cell, Idx.down_cellBelow, Idx.up_cell⟩

theorem fteik3d_sweep_L121c15_ctx2 (Big i i1 j j1 k k1 nx ny nz sgntx sgnty sgntz sgnvx sgnvy sgnvz t2d2 : Int) (_ : 2 ≤ nz) (_ : 2 ≤ nx) (_ : 2 ≤ ny) (_ : k ≤ (ny - 2)) (_ : (-1) < k) (_ : 1 ≤ j) (_ : j < nx) (_ : 1 ≤ i) (_ : i < nz) (_ : sgnvz = 1) (_ : sgnvx = 1) (_ : sgnvy = 0) (_ : sgntz = 1) (_ : sgntx = 1) (_ : sgnty = -1) (_ : i1 = (i - sgnvz)) (_ : j1 = (j - sgnvx)) (_ : k1 = (k - sgnvy)) (_ : t2d2 = Big) :
    (0 ≤ i1 ∧ i1 < (nz - 1)) ∧ (0 ≤ (max (j - 1) 0) ∧ (max (j - 1) 0) < (nx - 1)) ∧ (0 ≤ k1 ∧ k1 < (ny - 1)) := ⟨Idx.up_cell, Idx.up_cellBelow, Idx.down_cell⟩

theorem fteik3d_sweep_L121c15_ctx3 (Big i i1 j j1 k k1 nx ny nz sgntx sgnty sgntz sgnvx sgnvy sgnvz t2d2 : Int) (_ : 2 ≤ nz) (_ : 2 ≤ nx) (_ : 2 ≤ ny) (_ : k ≤ (ny - 2)) (_ : (-1) < k) (_ : j ≤ (nx - 2)) (_ : (-1) < j) (_ : 1 ≤ i) (_ : i < nz) (_ : sgnvz = 1) (_ : sgnvx = 0) (_ : sgnvy = 0) (_ : sgntz = 1) (_ : sgntx = -1) (_ : sgnty = -1) (_ : i1 = (i - sgnvz)) (_ : j1 = (j - sgnvx)) (_ : k1 = (k - sgnvy)) (_ : t2d2 = Big) :
    (0 ≤ i1 ∧ i1 < (nz - 1)) ∧ (0 ≤ (max (j - 1) 0) ∧ (max (j - 1) 0) < (nx - 1)) ∧ (0 ≤ k1 ∧ k1 < (ny - 1)) := ⟨Idx.up_cell, Idx.down_cellBelow, Idx.down_cell⟩

theorem fteik3d_sweep_L121c15_ctx4 (Big i i1 j j1 k k1 nx ny nz sgntx sgnty sgntz sgnvx sgnvy sgnvz t2d2 : Int) (_ : 2 ≤ nz) (_ : 2 ≤ nx) (_ : 2 ≤ ny) (_ : 1 ≤ k) (_ : k < ny) (_ : 1 ≤ j) (_ : j < nx) (_ : i ≤ (nz - 2)) (_ : (-1) < i) (_ : sgnvz = 0) (_ : sgnvx = 1) (_ : sgnvy = 1) (_ : sgntz = -1) (_ : sgntx = 1) (_ : sgnty = 1) (_ : i1 = (i - sgnvz)) (_ : j1 = (j - sgnvx)) (_ : k1 = (k - sgnvy)) (_ : t2d2 = Big) :
    (0 ≤ i1 ∧ i1 < (nz - 1)) ∧ (0 ≤ (max (j - 1) 0) ∧ (max (j - 1) 0) < (nx - 1)) ∧ (0 ≤ k1 ∧ k1 < (ny - 1)) := ⟨Idx.down_cell, Idx.up_cellBelow, Idx.up_cell⟩

theorem fteik3d_sweep_L121c15_ctx5 (Big i i1 j j1 k k1 nx ny nz sgntx sgnty sgntz sgnvx sgnvy sgnvz t2d2 : Int) (_ : 2 ≤ nz) (_ : 2 ≤ nx) (_ : 2 ≤ ny) (_ : 1 ≤ k) (_ : k < ny) (_ : j ≤ (nx - 2)) (_ : (-1) < j) (_ : i ≤ (nz - 2)) (_ : (-1) < i) (_ : sgnvz = 0) (_ : sgnvx = 0) (_ : sgnvy = 1) (_ : sgntz = -1) (_ : sgntx = -1) (_ : sgnty = 1) (_ : i1 = (i - sgnvz)) (_ : j1 = (j - sgnvx)) (_ : k1 = (k - sgnvy)) (_ : t2d2 = Big) :
    (0 ≤ i1 ∧ i1 < (nz - 1)) ∧ (0 ≤ (max (j - 1) 0) ∧ (max (j - 1) 0) < (nx - 1)) ∧ (0 ≤ k1 ∧ k1 < (ny - 1)) := ⟨Idx.down_cell, Idx.down_cellBelow, Idx.up_cell⟩

theorem fteik3d_sweep_L121c15_ctx6 (Big i i1 j j1 k k1 nx ny nz sgntx sgnty sgntz sgnvx sgnvy sgnvz t2d2 : Int) (_ : 2 ≤ nz) (_ : 2 ≤ nx) (_ : 2 ≤ ny) (_ : k ≤ (ny - 2)) (_ : (-1) < k) (_ : 1 ≤ j) (_ : j < nx) (_ : i ≤ (nz - 2)) (_ : (-1) < i) (_ : sgnvz = 0) (_ : sgnvx = 1) (_ : sgnvy = 0) (_ : sgntz = -1) (_ : sgntx = 1) (_ : sgnty = -1) (_ : i1 = (i - sgnvz)) (_ : j1 = (j - sgnvx)) (_ : k1 = (k - sgnvy)) (_ : t2d2 = Big) :
    (0 ≤ i1 ∧ i1 < (nz - 1)) ∧ (0 ≤ (max (j - 1) 0) ∧ (max (j - 1) 0) < (nx - 1)) ∧ (0 ≤ k1 ∧ k1 < (ny - 1)) := ⟨Idx.down_cell, Idx.up_cellBelow, Idx.down_cell⟩

theorem fteik3d_sweep_L121c15_ctx7 (Big i i1 j j1 k k1 nx ny nz sgntx sgnty sgntz sgnvx sgnvy sgnvz t2d2 : Int) (_ : 2 ≤ nz) (_ : 2 ≤ nx) (_ : 2 ≤ ny) (_ : k ≤ (ny - 2)) (_ : (-1) < k) (_ : j ≤ (nx - 2)) (_ : (-1) < j) (_ : i ≤ (nz - 2)) (_ : (-1) < i) (_ : sgnvz = 0) (_ : sgnvx = 0) (_ : sgnvy = 0) (_ : sgntz = -1) (_ : sgntx = -1) (_ : sgnty = -1) (_ : i1 = (i - sgnvz)) (_ : j1 = (j - sgnvx)) (_ : k1 = (k - sgnvy)) (_ : t2d2 = Big) :
    (0 ≤ i1 ∧ i1 < (nz - 1)) ∧ (0 ≤ (max (j - 1) 0) ∧ (max (j - 1) 0) < (nx - 1)) ∧ (0 ≤ k1 ∧ k1 < (ny - 1)) := ⟨Idx.down_cell, Idx.down_cellBelow, Idx.down_cell⟩

theorem fteik3d_sweep_L121c44_ctx0 (Big i i1 j j1 k k1 nx ny nz sgntx sgnty sgntz sgnvx sgnvy sgnvz t2d2 : Int) (_ : 2 ≤ nz) (_ : 2 ≤ nx) (_ : 2 ≤ ny) (_ : 1 ≤ k) (_ : k < ny) (_ : 1 ≤ j) (_ : j < nx) (_ : 1 ≤ i) (_ : i < nz) (_ : sgnvz = 1) (_ : sgnvx = 1) (_ : sgnvy = 1) (_ : sgntz = 1) (_ : sgntx = 1) (_ : sgnty = 1) (_ : i1 = (i - sgnvz)) (_ : j1 = (j - sgnvx)) (_ : k1 = (k - sgnvy)) (_ : t2d2 = Big) :
    (0 ≤ i1 ∧ i1 < (nz - 1)) ∧ (0 ≤ (min j (nx - 2)) ∧ (min j (nx - 2)) < (nx - 1)) ∧ (0 ≤ k1 ∧ k1 < (ny - 1)) := ⟨Idx.up_cell, Idx.up_cellAbove, Idx.up_cell⟩

theorem fteik3d_sweep_L121c44_ctx1 (Big i i1 j j1 k k1 nx ny nz sgntx sgnty sgntz sgnvx sgnvy sgnvz t2d2 : Int) (_ : 2 ≤ nz) (_ : 2 ≤ nx) (_ : 2 ≤ ny) (_ : 1 ≤ k) (_ : k < ny) (_ : j ≤ (nx - 2)) (_ : (-1) < j) (_ : 1 ≤ i) (_ : i < nz) (_ : sgnvz = 1) (_ : sgnvx = 0) (_ : sgnvy = 1) (_ : sgntz = 1) (_ : sgntx = -1) (_ : sgnty = 1) (_ : i1 = (i - sgnvz)) (_ : j1 = (j - sgnvx)) (_ : k1 = (k - sgnvy)) (_ : t2d2 = Big) :
    (0 ≤ i1 ∧ i1 < (nz - 1)) ∧ (0 ≤ (min j (nx - 2)) ∧ (min j (nx - 2)) < (nx - 1)) ∧ (0 ≤ k1 ∧ k1 < (ny - 1)) := ⟨Idx.up_cell, Idx.down_cellAbove, Idx.up_cell⟩

theorem fteik3d_sweep_L121c44_ctx2 (Big i i1 j j1 k k1 nx ny nz sgntx sgnty sgntz sgnvx sgnvy sgnvz t2d2 : Int) (_ : 2 ≤ nz) (_ : 2 ≤ nx) (_ : 2 ≤ ny) (_ : k ≤ (ny - 2)) (_ : (-1) < k) (_ : 1 ≤ j) (_ : j < nx) (_ : 1 ≤ i) (_ : i < nz) (_ : sgnvz = 1) (_ : sgnvx = 1) (_ : sgnvy = 0) (_ : sgntz = 1) (_ : sgntx = 1) (_ : sgnty = -1) (_ : i1 = (i - sgnvz)) (_ : j1 = (j - sgnvx)) (_ : k1 = (k - sgnvy)) (_ : t2d2 = Big) :
    (0 ≤ i1 ∧ i1 < (nz - 1)) ∧ (0 ≤ (min j (nx - 2)) ∧ (min j (nx - 2)) < (nx - 1)) ∧ (0 ≤ k1 ∧ k1 < (ny - 1)) := ⟨Idx.up_cell, Idx.up_cellAbove, Idx.down_cell⟩

theorem fteik3d_sweep_L121c44_ctx3 (Big i i1 j j1 k k1 nx ny nz sgntx sgnty sgntz sgnvx sgnvy sgnvz t2d2 : Int) (_ : 2 ≤ nz) (_ : 2 ≤ nx) (_ : 2 ≤ ny) (_ : k ≤ (ny - 2)) (_ : (-1) < k) (_ : j ≤ (nx - 2)) (_ : (-1) < j) (_ : 1 ≤ i) (_ : i < nz) (_ : sgnvz = 1) (_ : sgnvx = 0) (_ : sgnvy = 0) (_ : sgntz = 1) (_ : sgntx = -1) (_ : sgnty = -1) (_ : i1 = (i - sgnvz)) (_ : j1 = (j - sgnvx)) (_ : k1 = (k - sgnvy)) (_ : t2d2 = Big) :
    (0 ≤ i1 ∧ i1 < (nz - 1)) ∧ (0 ≤ (min j (nx - 2)) ∧ (min j (nx - 2)) < (nx - 1)) ∧ (0 ≤ k1 ∧ k1 < (ny - 1)) := ⟨Idx.up_cell, Idx.down_cellAbove, Idx.down_cell⟩

theorem fteik3d_sweep_L121c44_ctx4 (Big i i1 j j1 k k1 nx ny nz sgntx sgnty sgntz sgnvx sgnvy sgnvz t2d2 : Int) (_ : 2 ≤ nz) (_ : 2 ≤ nx) (_ : 2 ≤ ny) (_ : 1 ≤ k) (_ : k < ny) (_ : 1 ≤ j) (_ : j < nx) (_ : i ≤ (nz - 2)) (_ : (-1) < i) (_ : sgnvz = 0) (_ : sgnvx = 1) (_ : sgnvy = 1) (_ : sgntz = -1) (_ : sgntx = 1) (_ : sgnty = 1) (_ : i1 = (i - sgnvz)) (_ : j1 = (j - sgnvx)) (_ : k1 = (k - sgnvy)) (_ : t2d2 = Big) :
    (0 ≤ i1 ∧ i1 < (nz - 1)) ∧ (0 ≤ (min j (nx - 2)) ∧ (min j (nx - 2)) < (nx - 1)) ∧ (0 ≤ k1 ∧ k1 < (ny - 1)) := ⟨Idx.down_cell, Idx.up_cellAbove, Idx.up_cell⟩

theorem fteik3d_sweep_L121c44_ctx5 (Big i i1 j j1 k k1 nx ny nz sgntx sgnty sgntz sgnvx sgnvy sgnvz t2d2 : Int) (_ : 2 ≤ nz) (_ : 2 ≤ nx) (_ : 2 ≤ ny) (_ : 1 ≤ k) (_ : k < ny) (_ : j ≤ (nx - 2)) (_ : (-1) < j) (_ : i ≤ (nz - 2)) (_ : (-1) < i) (_ : sgnvz = 0) (_ : sgnvx = 0) (_ : sgnvy = 1) (_ : sgntz = -1) (_ : sgntx = -1) (_ : sgnty = 1) (_ : i1 = (i - sgnvz)) (_ : j1 = (j - sgnvx)) (_ : k1 = (k - sgnvy)) (_ : t2d2 = Big) :
    (0 ≤ i1 ∧ i1 < (nz - 1)) ∧ (0 ≤ (min j (nx - 2)) ∧ (min j (nx - 2)) < (nx - 1)) ∧ (0 ≤ k1 ∧ k1 < (ny - 1)) := ⟨Idx.down_cell, Idx.down_cellAbove, Idx.up_cell⟩

theorem fteik3d_sweep_L121c44_ctx6 (Big i i1 j j1 k k1 nx ny nz sgntx sgnty sgntz sgnvx sgnvy sgnvz t2d2 : Int) (_ : 2 ≤ nz) (_ : 2 ≤ nx) (_ : 2 ≤ ny) (_ : k ≤ (ny - 2)) (_ : (-1) < k) (_ : 1 ≤ j) (_ : j < nx) (_ : i ≤ (nz - 2)) (_ : (-1) < i) (_ : sgnvz = 0) (_ : sgnvx = 1) (_ : sgnvy = 0) (_ : sgntz = -1) (_ : sgntx = 1) (_ : sgnty = -1) (_ : i1 = (i - sgnvz)) (_ : j1 = (j - sgnvx)) (_ : k1 = (k - sgnvy)) (_ : t2d2 = Big) :
    (0 ≤ i1 ∧ i1 < (nz - 1)) ∧ (0 ≤ (min j (nx - 2)) ∧ (min j (nx - 2)) < (nx - 1)) ∧ (0 ≤ k1 ∧ k1 < (ny - 1)) := ⟨Idx.down_cell, Idx.up_cellAbove, Idx.down_cell⟩

theorem fteik3d_sweep_L121c44_ctx7 (Big i i1 j j1 k k1 nx ny nz sgntx sgnty sgntz sgnvx sgnvy sgnvz t2d2 : Int) (_ : 2 ≤ nz) (_ : 2 ≤ nx) (_ : 2 ≤ ny) (_ : k ≤ (ny - 2)) (_ : (-1) < k) (_ : j ≤ (nx - 2)) (_ : (-1) < j) (_ : i ≤ (nz - 2)) (_ : (-1) < i) (_ : sgnvz = 0) (_ : sgnvx = 0) (_ : sgnvy = 0) (_ : sgntz = -1) (_ : sgntx = -1) (_ : sgnty = -1) (_ : i1 = (i - sgnvz)) (_ : j1 = (j - sgnvx)) (_ : k1 = (k - sgnvy)) (_ : t2d2 = Big) :
    (0 ≤ i1 ∧ i1 < (nz - 1)) ∧ (0 ≤ (min j (nx - 2)) ∧ (min j (nx - 2)) < (nx - 1)) ∧ (0 ≤ k1 ∧ k1 < (ny - 1)) := ⟨Idx.down_cell, Idx.down_cellAbove, Idx.down_cell⟩

theorem fteik3d_sweep_L133c15_ctx0 (Big i i1 j j1 k k1 nx ny nz sgntx sgnty sgntz sgnvx sgnvy sgnvz t2d3 : Int) (_ : 2 ≤ nz) (_ : 2 ≤ nx) (_ : 2 ≤ ny) (_ : 1 ≤ k) (_ : k < ny) (_ : 1 ≤ j) (_ : j < nx) (_ : 1 ≤ i) (_ : i < nz) (_ : sgnvz = 1) (_ : sgnvx = 1) (_ : sgnvy = 1) (_ : sgntz = 1) (_ : sgntx = 1) (_ : sgnty = 1) (_ : i1 = (i - sgnvz)) (_ : j1 = (j - sgnvx)) (_ : k1 = (k - sgnvy)) (_ : t2d3 = Big) :
    (0 ≤ (max (i - 1) 0) ∧ (max (i - 1) 0) < (nz - 1)) ∧ (0 ≤ j1 ∧ j1 < (nx - 1)) ∧ (0 ≤ k1 ∧ k1 < (ny - 1)) := ⟨Idx.up_cellBelow, Idx.up_cell, Idx.up_cell⟩

theorem fteik3d_sweep_L133c15_ctx1 (Big i i1 j j1 k k1 nx ny nz sgntx sgnty sgntz sgnvx sgnvy sgnvz t2d3 : Int) (_ : 2 ≤ nz) (_ : 2 ≤ nx) (_ : 2 ≤ ny) (_ : 1 ≤ k) (_ : k < ny) (_ : j ≤ (nx - 2)) (_ : (-1) < j) (_ : 1 ≤ i) (_ : i < nz) (_ : sgnvz = 1) (_ : sgnvx = 0) (_ : sgnvy = 1) (_ : sgntz = 1) (_ : sgntx = -1) (_ : sgnty = 1) (_ : i1 = (i - sgnvz)) (_ : j1 = (j - sgnvx)) (_ : k1 = (k - sgnvy)) (_ : t2d3 = Big) :
    (0 ≤ (max (i - 1) 0) ∧ (max (i - 1) 0) < (nz - 1)) ∧ (0 ≤ j1 ∧ j1 < (nx - 1)) ∧ (0 ≤ k1 ∧ k1 < (ny - 1)) := ⟨Idx.up_cellBelow, Idx.down_cell, Idx.up_cell⟩

theorem fteik3d_sweep_L133c15_ctx2 (Big i i1 j j1 k k1 nx ny nz sgntx sgnty sgntz sgnvx sgnvy sgnvz t2d3 : Int) (_ : 2 ≤ nz) (_ : 2 ≤ nx) (_ : 2 ≤ ny) (_ : k ≤ (ny - 2)) (_ : (-1) < k) (_ : 1 ≤ j) (_ : j < nx) (_ : 1 ≤ i) (_ : i < nz) (_ : sgnvz = 1) (_ : sgnvx = 1) (_ : sgnvy = 0) (_ : sgntz = 1) (_ : sgntx = 1) (_ : sgnty = -1) (_ : i1 = (i - sgnvz)) (_ : j1 = (j - sgnvx)) (_ : k1 = (k - sgnvy)) (_ : t2d3 = Big) :
    (0 ≤ (max (i - 1) 0) ∧ (max (i - 1) 0) < (nz - 1)) ∧ (0 ≤ j1 ∧ j1 < (nx - 1)) ∧ (0 ≤ k1 ∧ k1 < (ny - 1)) := ⟨Idx.up_cellBelow, Idx.up_cell, Idx.down_cell⟩

theorem fteik3d_sweep_L133c15_ctx3 (Big i i1 j j1 k k1 nx ny nz sgntx sgnty sgntz sgnvx sgnvy sgnvz t2d3 : Int) (_ : 2 ≤ nz) (_ : 2 ≤ nx) (_ : 2 ≤ ny) (_ : k ≤ (ny - 2)) (_ : (-1) < k) (_ : j ≤ (nx - 2)) (_ : (-1) < j) (_ : 1 ≤ i) (_ : i < nz) (_ : sgnvz = 1) (_ : sgnvx = 0) (_ : sgnvy = 0) (_ : sgntz = 1) (_ : sgntx = -1) (_ : sgnty = -1) (_ : i1 = (i - sgnvz)) (_ : j1 = (j - sgnvx)) (_ : k1 = (k - sgnvy)) (_ : t2d3 = Big) :
    (0 ≤ (max (i - 1) 0) ∧ (max (i - 1) 0) < (nz - 1)) ∧ (0 ≤ j1 ∧ j1 < (nx - 1)) ∧ (0 ≤ k1 ∧ k1 < (ny - 1)) := ⟨Idx.up_cellBelow, Idx.down_cell, Idx.down_cell⟩

theorem fteik3d_sweep_L133c15_ctx4 (Big i i1 j j1 k k1 nx ny nz sgntx sgnty sgntz sgnvx sgnvy sgnvz t2d3 : Int) (_ : 2 ≤ nz) (_ : 2 ≤ nx) (_ : 2 ≤ ny) (_ : 1 ≤ k) (_ : k < ny) (_ : 1 ≤ j) (_ : j < nx) (_ : i ≤ (nz - 2)) (_ : (-1) < i) (_ : sgnvz = 0) (_ : sgnvx = 1) (_ : sgnvy = 1) (_ : sgntz = -1) (_ : sgntx = 1) (_ : sgnty = 1) (_ : i1 = (i - sgnvz)) (_ : j1 = (j - sgnvx)) (_ : k1 = (k - sgnvy)) (_ : t2d3 = Big) :
    (0 ≤ (max (i - 1) 0) ∧ (max (i - 1) 0) < (nz - 1)) ∧ (0 ≤ j1 ∧ j1 < (nx - 1)) ∧ (0 ≤ k1 ∧ k1 < (ny - 1)) := ⟨Idx.down_cellBelow, Idx.up_cell, Idx.up_cell⟩

theorem fteik3d_sweep_L133c15_ctx5 (Big i i1 j j1 k k1 nx ny nz sgntx sgnty sgntz sgnvx sgnvy sgnvz t2d3 : Int) (_ : 2 ≤ nz) (_ : 2 ≤ nx) (_ : 2 ≤ ny) (_ : 1 ≤ k) (_ : k < ny) (_ : j ≤ (nx - 2)) (_ : (-1) < j) (_ : i ≤ (nz - 2)) (_ : (-1) < i) (_ : sgnvz = 0) (_ : sgnvx = 0) (_ : sgnvy = 1) (_ : sgntz = -1) (_ : sgntx = -1) (_ : sgnty = 1) (_ : i1 = (i - sgnvz)) (_ : j1 = (j - sgnvx)) (_ : k1 = (k - sgnvy)) (_ : t2d3 = Big) :
    (0 ≤ (max (i - 1) 0) ∧ (max (i - 1) 0) < (nz - 1)) ∧ (0 ≤ j1 ∧ j1 < (nx - 1)) ∧ (0 ≤ k1 ∧ k1 < (ny - 1)) := ⟨Idx.down_cellBelow, Idx.down_cell, Idx.up_cell⟩

theorem fteik3d_sweep_L133c15_ctx6 (Big i i1 j j1 k k1 nx ny nz sgntx sgnty sgntz sgnvx sgnvy sgnvz t2d3 : Int) (_ : 2 ≤ nz) (_ : 2 ≤ nx) (_ : 2 ≤ ny) (_ : k ≤ (ny - 2)) (_ : (-1) < k) (_ : 1 ≤ j) (_ : j < nx) (_ : i ≤ (nz - 2)) (_ : (-1) < i) (_ : sgnvz = 0) (_ : sgnvx = 1) (_ : sgnvy = 0) (_ : sgntz = -1) (_ : sgntx = 1) (_ : sgnty = -1) (_ : i1 = (i - sgnvz)) (_ : j1 = (j - sgnvx)) (_ : k1 = (k - sgnvy)) (_ : t2d3 = Big) :
    (0 ≤ (max (i - 1) 0) ∧ (max (i - 1) 0) < (nz - 1)) ∧ (0 ≤ j1 ∧ j1 < (nx - 1)) ∧ (0 ≤ k1 ∧ k1 < (ny - 1)) := ⟨Idx.down_cellBelow, Idx.up_cell, Idx.down_cell⟩

theorem fteik3d_sweep_L133c15_ctx7 (Big i i1 j j1 k k1 nx ny nz sgntx sgnty sgntz sgnvx sgnvy sgnvz t2d3 : Int) (_ : 2 ≤ nz) (_ : 2 ≤ nx) (_ : 2 ≤ ny) (_ : k ≤ (ny - 2)) (_ : (-1) < k) (_ : j ≤ (nx - 2)) (_ : (-1) < j) (_ : i ≤ (nz - 2)) (_ : (-1) < i) (_ : sgnvz = 0) (_ : sgnvx = 0) (_ : sgnvy = 0) (_ : sgntz = -1) (_ : sgntx = -1) (_ : sgnty = -1) (_ : i1 = (i - sgnvz)) (_ : j1 = (j - sgnvx)) (_ : k1 = (k - sgnvy)) (_ : t2d3 = Big) :
    (0 ≤ (max (i - 1) 0) ∧ (max (i - 1) 0) < (nz - 1)) ∧ (0 ≤ j1 ∧ j1 < (nx - 1)) ∧ (0 ≤ k1 ∧ k1 < (ny - 1)) := ⟨Idx.down_cellBelow, Idx.down_cell, Idx.down_cell⟩

theorem fteik3d_sweep_L133c44_ctx0 (Big i i1 j j1 k k1 nx ny nz sgntx sgnty sgntz sgnvx sgnvy sgnvz t2d3 : Int) (_ : 2 ≤ nz) (_ : 2 ≤ nx) (_ : 2 ≤ ny) (_ : 1 ≤ k) (_ : k < ny) (_ : 1 ≤ j) (_ : j < nx) (_ : 1 ≤ i) (_ : i < nz) (_ : sgnvz = 1) (_ : sgnvx = 1) (_ : sgnvy = 1) (_ : sgntz = 1) (_ : sgntx = 1) (_ : sgnty = 1) (_ : i1 = (i - sgnvz)) (_ : j1 = (j - sgnvx)) (_ : k1 = (k - sgnvy)) (_ : t2d3 = Big) :
    (0 ≤ (min i (nz - 2)) ∧ (min i (nz - 2)) < (nz - 1)) ∧ (0 ≤ j1 ∧ j1 < (nx - 1)) ∧ (0 ≤ k1 ∧ k1 < (ny - 1)) := ⟨Idx.up_cellAbove, Idx.up_cell, Idx.up_cell⟩

theorem fteik3d_sweep_L133c44_ctx1 (Big i i1 j j1 k k1 nx ny nz sgntx sgnty sgntz sgnvx sgnvy sgnvz t2d3 : Int) (_ : 2 ≤ nz) (_ : 2 ≤ nx) (_ : 2 ≤ ny) (_ : 1 ≤ k) (_ : k < ny) (_ : j ≤ (nx - 2)) (_ : (-1) < j) (_ : 1 ≤ i) (_ : i < nz) (_ : sgnvz = 1) (_ : sgnvx = 0) (_ : sgnvy = 1) (_ : sgntz = 1) (_ : sgntx = -1) (_ : sgnty = 1) (_ : i1 = (i - sgnvz)) (_ : j1 = (j - sgnvx)) (_ : k1 = (k - sgnvy)) (_ : t2d3 = Big) :
    (0 ≤ (min i (nz - 2)) ∧ (min i (nz - 2)) < (nz - 1)) ∧ (0 ≤ j1 ∧ j1 < (nx - 1)) ∧ (0 ≤ k1 ∧ k1 < (ny - 1)) := ⟨Idx.up_cellAbove, Idx.down_cell, Idx.up_cell⟩

theorem fteik3d_sweep_L133c44_ctx2 (Big i i1 j j1 k k1 nx ny nz sgntx sgnty sgntz sgnvx sgnvy sgnvz t2d3 : Int) (_ : 2 ≤ nz) (_ : 2 ≤ nx) (_ : 2 ≤ ny) (_ : k ≤ (ny - 2)) (_ : (-1) < k) (_ : 1 ≤ j) (_ : j < nx) (_ : 1 ≤ i) (_ : i < nz) (_ : sgnvz = 1) (_ : sgnvx = 1) (_ : sgnvy = 0) (_ : sgntz = 1) (_ : sgntx = 1) (_ : sgnty = -1) (_ : i1 = (i - sgnvz)) (_ : j1 = (j - sgnvx)) (_ : k1 = (k - sgnvy)) (_ : t2d3 = Big) :
    (0 ≤ (min i (nz - 2)) ∧ (min i (nz - 2)) < (nz - 1)) ∧ (0 ≤ j1 ∧ j1 < (nx - 1)) ∧ (0 ≤ k1 ∧ k1 < (ny - 1)) := ⟨Idx.up_cellAbove, Idx.up_cell, Idx.down_cell⟩

theorem fteik3d_sweep_L133c44_ctx3 (Big i i1 j j1 k k1 nx ny nz sgntx sgnty sgntz sgnvx sgnvy sgnvz t2d3 : Int) (_ : 2 ≤ nz) (_ : 2 ≤ nx) (_ : 2 ≤ ny) (_ : k ≤ (ny - 2)) (_ : (-1) < k) (_ : j ≤ (nx - 2)) (_ : (-1) < j) (_ : 1 ≤ i) (_ : i < nz) (_ : sgnvz = 1) (_ : sgnvx = 0) (_ : sgnvy = 0) (_ : sgntz = 1) (_ : sgntx = -1) (_ : sgnty = -1) (_ : i1 = (i - sgnvz)) (_ : j1 = (j - sgnvx)) (_ : k1 = (k - sgnvy)) (_ : t2d3 = Big) :
    (0 ≤ (min i (nz - 2)) ∧ (min i (nz - 2)) < (nz - 1)) ∧ (0 ≤ j1 ∧ j1 < (nx - 1)) ∧ (0 ≤ k1 ∧ k1 < (ny - 1)) := ⟨Idx.up_cellAbove, Idx.down_cell, Idx.down_cell⟩

theorem fteik3d_sweep_L133c44_ctx4 (Big i i1 j j1 k k1 nx ny nz sgntx sgnty sgntz sgnvx sgnvy sgnvz t2d3 : Int) (_ : 2 ≤ nz) (_ : 2 ≤ nx) (_ : 2 ≤ ny) (_ : 1 ≤ k) (_ : k < ny) (_ : 1 ≤ j) (_ : j < nx) (_ : i ≤ (nz - 2)) (_ : (-1) < i) (_ : sgnvz = 0) (_ : sgnvx = 1) (_ : sgnvy = 1) (_ : sgntz = -1) (_ : sgntx = 1) (_ : sgnty = 1) (_ : i1 = (i - sgnvz)) (_ : j1 = (j - sgnvx)) (_ : k1 = (k - sgnvy)) (_ : t2d3 = Big) :
    (0 ≤ (min i (nz - 2)) ∧ (min i (nz - 2)) < (nz - 1)) ∧ (0 ≤ j1 ∧ j1 < (nx - 1)) ∧ (0 ≤ k1 ∧ k1 < (ny - 1)) := ⟨Idx.down_cellAbove, Idx.up_cell, Idx.up_cell⟩

theorem fteik3d_sweep_L133c44_ctx5 (Big i i1 j j1 k k1 nx ny nz sgntx sgnty sgntz sgnvx sgnvy sgnvz t2d3 : Int) (_ : 2 ≤ nz) (_ : 2 ≤ nx) (_ : 2 ≤ ny) (_ : 1 ≤ k) (_ : k < ny) (_ : j ≤ (nx - 2)) (_ : (-1) < j) (_ : i ≤ (nz - 2)) (_ : (-1) < i) (_ : sgnvz = 0) (_ : sgnvx = 0) (_ : sgnvy = 1) (_ : sgntz = -1) (_ : sgntx = -1) (_ : sgnty = 1) (_ : i1 = (i - sgnvz)) (_ : j1 = (j - sgnvx)) (_ : k1 = (k - sgnvy)) (_ : t2d3 = Big) :
    (0 ≤ (min i (nz - 2)) ∧ (min i (nz - 2)) < (nz - 1)) ∧ (0 ≤ j1 ∧ j1 < (nx - 1)) ∧ (0 ≤ k1 ∧ k1 < (ny - 1)) := ⟨Idx.down_cellAbove, Idx.down_cell, Idx.up_cell⟩

theorem fteik3d_sweep_L133c44_ctx6 (Big i i1 j j1 k k1 nx ny nz sgntx sgnty sgntz sgnvx sgnvy sgnvz t2d3 : Int) (_ : 2 ≤ nz) (_ : 2 ≤ nx) (_ : 2 ≤ ny) (_ : k ≤ (ny - 2)) (_ : (-1) < k) (_ : 1 ≤ j) (_ : j < nx) (_ : i ≤ (nz - 2)) (_ : (-1) < i) (_ : sgnvz = 0) (_ : sgnvx = 1) (_ : sgnvy = 0) (_ : sgntz = -1) (_ : sgntx = 1) (_ : sgnty = -1) (_ : i1 = (i - sgnvz)) (_ : j1 = (j - sgnvx)) (_ : k1 = (k - sgnvy)) (_ : t2d3 = Big) :
    (0 ≤ (min i (nz - 2)) ∧ (min i (nz - 2)) < (nz - 1)) ∧ (0 ≤ j1 ∧ j1 < (nx - 1)) ∧ (0 ≤ k1 ∧ k1 < (ny - 1)) := ⟨Idx.down_cellAbove, Idx.up_cell, Idx.down_cell⟩

theorem fteik3d_sweep_L133c44_ctx7 (Big i i1 j j1 k k1 nx ny nz sgntx sgnty sgntz sgnvx sgnvy sgnvz t2d3 : Int) (_ : 2 ≤ nz) (_ : 2 ≤ nx) (_ : 2 ≤ ny) (_ : k ≤ (ny - 2)) (_ : (-1) < k) (_ : j ≤ (nx - 2)) (_ : (-1) < j) (_ : i ≤ (nz - 2)) (_ : (-1) < i) (_ : sgnvz = 0) (_ : sgnvx = 0) (_ : sgnvy = 0) (_ : sgntz = -1) (_ : sgntx = -1) (_ : sgnty = -1) (_ : i1 = (i - sgnvz)) (_ : j1 = (j - sgnvx)) (_ : k1 = (k - sgnvy)) (_ : t2d3 = Big) :
    (0 ≤ (min i (nz - 2)) ∧ (min i (nz - 2)) < (nz - 1)) ∧ (0 ≤ j1 ∧ j1 < (nx - 1)) ∧ (0 ≤ k1 ∧ k1 < (ny - 1)) := ⟨Idx.down_cellAbove, Idx.down_cell, Idx.down_cell⟩

theorem fteik3d_sweep_L148c15_ctx0 (Big i i1 j j1 k k1 nx ny nz sgntx sgnty sgntz sgnvx sgnvy sgnvz t3d : Int) (_ : 2 ≤ nz) (_ : 2 ≤ nx) (_ : 2 ≤ ny) (_ : 1 ≤ k) (_ : k < ny) (_ : 1 ≤ j) (_ : j < nx) (_ : 1 ≤ i) (_ : i < nz) (_ : sgnvz = 1) (_ : sgnvx = 1) (_ : sgnvy = 1) (_ : sgntz = 1) (_ : sgntx = 1) (_ : sgnty = 1) (_ : i1 = (i - sgnvz)) (_ : j1 = (j - sgnvx)) (_ : k1 = (k - sgnvy)) (_ : t3d = Big) :
    (0 ≤ i1 ∧ i1 < (nz - 1)) ∧ (0 ≤ j1 ∧ j1 < (nx - 1)) ∧ (0 ≤ k1 ∧ k1 < (ny - 1)) := ⟨Idx.up_cell, Idx.up_cell, Idx.up_cell⟩

theorem fteik3d_sweep_L148c15_ctx1 (Big i i1 j j1 k k1 nx ny nz sgntx sgnty sgntz sgnvx sgnvy sgnvz t3d : Int) (_ : 2 ≤ nz) (_ : 2 ≤ nx) (_ : 2 ≤ ny) (_ : 1 ≤ k) (_ : k < ny) (_ : j ≤ (nx - 2)) (_ : (-1) < j) (_ : 1 ≤ i) (_ : i < nz) (_ : sgnvz = 1) (_ : sgnvx = 0) (_ : sgnvy = 1) (_ : sgntz = 1) (_ : sgntx = -1) (_ : sgnty = 1) (_ : i1 = (i - sgnvz)) (_ : j1 = (j - sgnvx)) (_ : k1 = (k - sgnvy)) (_ : t3d = Big) :
    (0 ≤ i1 ∧ i1 < (nz - 1)) ∧ (0 ≤ j1 ∧ j1 < (nx - 1)) ∧ (0 ≤ k1 ∧ k1 < (ny - 1)) := ⟨Idx.up_cell, Idx.down_cell, Idx.up_cell⟩

theorem fteik3d_sweep_L148c15_ctx2 (Big i i1 j j1 k k1 nx ny nz sgntx sgnty sgntz sgnvx sgnvy sgnvz t3d : Int) (_ : 2 ≤ nz) (_ : 2 ≤ nx) (_ : 2 ≤ ny) (_ : k ≤ (ny - 2)) (_ : (-1) < k) (_ : 1 ≤ j) (_ : j < nx) (_ : 1 ≤ i) (_ : i < nz) (_ : sgnvz = 1) (_ : sgnvx = 1) (_ : sgnvy = 0) (_ : sgntz = 1) (_ : sgntx = 1) (_ : sgnty = -1) (_ : i1 = (i - sgnvz)) (_ : j1 = (j - sgnvx)) (_ : k1 = (k - sgnvy)) (_ : t3d = Big) :
    (0 ≤ i1 ∧ i1 < (nz - 1)) ∧ (0 ≤ j1 ∧ j1 < (nx - 1)) ∧ (0 ≤ k1 ∧ k1 < (ny - 1)) := ⟨Idx.up_cell, Idx.up_cell, Idx.down_cell⟩

theorem fteik3d_sweep_L148c15_ctx3 (Big i i1 j j1 k k1 nx ny nz sgntx sgnty sgntz sgnvx sgnvy sgnvz t3d : Int) (_ : 2 ≤ nz) (_ : 2 ≤ nx) (_ : 2 ≤ ny) (_ : k ≤ (ny - 2)) (_ : (-1) < k) (_ : j ≤ (nx - 2)) (_ : (-1) < j) (_ : 1 ≤ i) (_ : i < nz) (_ : sgnvz = 1) (_ : sgnvx = 0) (_ : sgnvy = 0) (_ : sgntz = 1) (_ : sgntx = -1) (_ : sgnty = -1) (_ : i1 = (i - sgnvz)) (_ : j1 = (j - sgnvx)) (_ : k1 = (k - sgnvy)) (_ : t3d = Big) :
    (0 ≤ i1 ∧ i1 < (nz - 1)) ∧ (0 ≤ j1 ∧ j1 < (nx - 1)) ∧ (0 ≤ k1 ∧ k1 < (ny - 1)) := ⟨Idx.up_cell, Idx.down_cell, Idx.down_cell⟩

theorem fteik3d_sweep_L148c15_ctx4 (Big i i1 j j1 k k1 nx ny nz sgntx sgnty sgntz sgnvx sgnvy sgnvz t3d : Int) (_ : 2 ≤ nz) (_ : 2 ≤ nx) (_ : 2 ≤ ny) (_ : 1 ≤ k) (_ : k < ny) (_ : 1 ≤ j) (_ : j < nx) (_ : i ≤ (nz - 2)) (_ : (-1) < i) (_ : sgnvz = 0) (_ : sgnvx = 1) (_ : sgnvy = 1) (_ : sgntz = -1) (_ : sgntx = 1) (_ : sgnty = 1) (_ : i1 = (i - sgnvz)) (_ : j1 = (j - sgnvx)) (_ : k1 = (k - sgnvy)) (_ : t3d = Big) :
    (0 ≤ i1 ∧ i1 < (nz - 1)) ∧ (0 ≤ j1 ∧ j1 < (nx - 1)) ∧ (0 ≤ k1 ∧ k1 < (ny - 1)) := ⟨Idx.down_cell, Idx.up_cell, Idx.up_cell⟩

theorem fteik3d_sweep_L148c15_ctx5 (Big i i1 j j1 k k1 nx ny nz sgntx sgnty sgntz sgnvx sgnvy sgnvz t3d : Int) (_ : 2 ≤ nz) (_ : 2 ≤ nx) (_ : 2 ≤ ny) (_ : 1 ≤ k) (_ : k < ny) (_ : j ≤ (nx - 2)) (_ : (-1) < j) (_ : i ≤ (nz - 2)) (_ : (-1) < i) (_ : sgnvz = 0) (_ : sgnvx = 0) (_ : sgnvy = 1) (_ : sgntz = -1) (_ : sgntx = -1) (_ : sgnty = 1) (_ : i1 = (i - sgnvz)) (_ : j1 = (j - sgnvx)) (_ : k1 = (k - sgnvy)) (_ : t3d = Big) :
    (0 ≤ i1 ∧ i1 < (nz - 1)) ∧ (0 ≤ j1 ∧ j1 < (nx - 1)) ∧ (0 ≤ k1 ∧ k1 < (ny - 1)) := ⟨Idx.down_cell, Idx.down_cell, Idx.up_cell⟩

theorem fteik3d_sweep_L148c15_ctx6 (Big i i1 j j1 k k1 nx ny nz sgntx sgnty sgntz sgnvx sgnvy sgnvz t3d : Int) (_ : 2 ≤ nz) (_ : 2 ≤ nx) (_ : 2 ≤ ny) (_ : k ≤ (ny - 2)) (_ : (-1) < k) (_ : 1 ≤ j) (_ : j < nx) (_ : i ≤ (nz - 2)) (_ : (-1) < i) (_ : sgnvz = 0) (_ : sgnvx = 1) (_ : sgnvy = 0) (_ : sgntz = -1) (_ : sgntx = 1) (_ : sgnty = -1) (_ : i1 = (i - sgnvz)) (_ : j1 = (j - sgnvx)) (_ : k1 = (k - sgnvy)) (_ : t3d = Big) :
    (0 ≤ i1 ∧ i1 < (nz - 1)) ∧ (0 ≤ j1 ∧ j1 < (nx - 1)) ∧ (0 ≤ k1 ∧ k1 < (ny - 1)) := ⟨Idx.down_cell, Idx.up_cell, Idx.down_cell⟩

theorem fteik3d_sweep_L148c15_ctx7 (Big i i1 j j1 k k1 nx ny nz sgntx sgnty sgntz sgnvx sgnvy sgnvz t3d : Int) (_ : 2 ≤ nz) (_ : 2 ≤ nx) (_ : 2 ≤ ny) (_ : k ≤ (ny - 2)) (_ : (-1) < k) (_ : j ≤ (nx - 2)) (_ : (-1) < j) (_ : i ≤ (nz - 2)) (_ : (-1) < i) (_ : sgnvz = 0) (_ : sgnvx = 0) (_ : sgnvy = 0) (_ : sgntz = -1) (_ : sgntx = -1) (_ : sgnty = -1) (_ : i1 = (i - sgnvz)) (_ : j1 = (j - sgnvx)) (_ : k1 = (k - sgnvy)) (_ : t3d = Big) :
    (0 ≤ i1 ∧ i1 < (nz - 1)) ∧ (0 ≤ j1 ∧ j1 < (nx - 1)) ∧ (0 ≤ k1 ∧ k1 < (ny - 1)) := ⟨Idx.down_cell, Idx.down_cell, Idx.down_cell⟩

theorem fteik3d_sweep_L162c9_ctx0 (i i1 j j1 k k1 nx ny nz sgntx sgnty sgntz sgnvx sgnvy sgnvz : Int) (_ : 2 ≤ nz) (_ : 2 ≤ nx) (_ : 2 ≤ ny) (_ : 1 ≤ k) (_ : k < ny) (_ : 1 ≤ j) (_ : j < nx) (_ : 1 ≤ i) (_ : i < nz) (_ : sgnvz = 1) (_ : sgnvx = 1) (_ : sgnvy = 1) (_ : sgntz = 1) (_ : sgntx = 1) (_ : sgnty = 1) (_ : i1 = (i - sgnvz)) (_ : j1 = (j - sgnvx)) (_ : k1 = (k - sgnvy)) :
    (0 ≤ i ∧ i < nz) ∧ (0 ≤ j ∧ j < nx) ∧ (0 ≤ k ∧ k < ny) := ⟨Idx.up, Idx.up, Idx.up⟩

theorem fteik3d_sweep_L162c9_ctx1 (i i1 j j1 k k1 nx ny nz sgntx sgnty sgntz sgnvx sgnvy sgnvz : Int) (_ : 2 ≤ nz) (_ : 2 ≤ nx) (_ : 2 ≤ ny) (_ : 1 ≤ k) (_ : k < ny) (_ : j ≤ (nx - 2)) (_ : (-1) < j) (_ : 1 ≤ i) (_ : i < nz) (_ : sgnvz = 1) (_ : sgnvx = 0) (_ : sgnvy = 1) (_ : sgntz = 1) (_ : sgntx = -1) (_ : sgnty = 1) (_ : i1 = (i - sgnvz)) (_ : j1 = (j - sgnvx)) (_ : k1 = (k - sgnvy)) :
    (0 ≤ i ∧ i < nz) ∧ (0 ≤ j ∧ j < nx) ∧ (0 ≤ k ∧ k < ny) := ⟨Idx.up, Idx.down, Idx.up⟩

theorem fteik3d_sweep_L162c9_ctx2 (i i1 j j1 k k1 nx ny nz sgntx sgnty sgntz sgnvx sgnvy sgnvz : Int) (_ : 2 ≤ nz) (_ : 2 ≤ nx) (_ : 2 ≤ ny) (_ : k ≤ (ny - 2)) (_ : (-1) < k) (_ : 1 ≤ j) (_ : j < nx) (_ : 1 ≤ i) (_ : i < nz) (_ : sgnvz = 1) (_ : sgnvx = 1) (_ : sgnvy = 0) (_ : sgntz = 1) (_ : sgntx = 1) (_ : sgnty = -1) (_ : i1 = (i - sgnvz)) (_ : j1 = (j - sgnvx)) (_ : k1 = (k - sgnvy)) :
    (0 ≤ i ∧ i < nz) ∧ (0 ≤ j ∧ j < nx) ∧ (0 ≤ k ∧ k < ny) := ⟨Idx.up, Idx.up, Idx.down⟩

theorem fteik3d_sweep_L162c9_ctx3 (i i1 j j1 k k1 nx ny nz sgntx sgnty sgntz sgnvx sgnvy sgnvz : Int) (_ : 2 ≤ nz) (_ : 2 ≤ nx) (_ : 2 ≤ ny) (_ : k ≤ (ny - 2)) (_ : (-1) < k) (_ : j ≤ (nx - 2)) (_ : (-1) < j) (_ : 1 ≤ i) (_ : i < nz) (_ : sgnvz = 1) (_ : sgnvx = 0) (_ : sgnvy = 0) (_ : sgntz = 1) (_ : sgntx = -1) (_ : sgnty = -1) (_ : i1 = (i - sgnvz)) (_ : j1 = (j - sgnvx)) (_ : k1 = (k - sgnvy)) :
    (0 ≤ i ∧ i < nz) ∧ (0 ≤ j ∧ j < nx) ∧ (0 ≤ k ∧ k < ny) := ⟨Idx.up, Idx.down, Idx.down⟩

theorem fteik3d_sweep_L162c9_ctx4 (i i1 j j1 k k1 nx ny nz sgntx sgnty sgntz sgnvx sgnvy sgnvz : Int) (_ : 2 ≤ nz) (_ : 2 ≤ nx) (_ : 2 ≤ ny) (_ : 1 ≤ k) (_ : k < ny) (_ : 1 ≤ j) (_ : j < nx) (_ : i ≤ (nz - 2)) (_ : (-1) < i) (_ : sgnvz = 0) (_ : sgnvx = 1) (_ : sgnvy = 1) (_ : sgntz = -1) (_ : sgntx = 1) (_ : sgnty = 1) (_ : i1 = (i - sgnvz)) (_ : j1 = (j - sgnvx)) (_ : k1 = (k - sgnvy)) :
    (0 ≤ i ∧ i < nz) ∧ (0 ≤ j ∧ j < nx) ∧ (0 ≤ k ∧ k < ny) := ⟨Idx.down, Idx.up, Idx.up⟩

theorem fteik3d_sweep_L162c9_ctx5 (i i1 j j1 k k1 nx ny nz sgntx sgnty sgntz sgnvx sgnvy sgnvz : Int) (_ : 2 ≤ nz) (_ : 2 ≤ nx) (_ : 2 ≤ ny) (_ : 1 ≤ k) (_ : k < ny) (_ : j ≤ (nx - 2)) (_ : (-1) < j) (_ : i ≤ (nz - 2)) (_ : (-1) < i) (_ : sgnvz = 0) (_ : sgnvx = 0) (_ : sgnvy = 1) (_ : sgntz = -1) (_ : sgntx = -1) (_ : sgnty = 1) (_ : i1 = (i - sgnvz)) (_ : j1 = (j - sgnvx)) (_ : k1 = (k - sgnvy)) :
    (0 ≤ i ∧ i < nz) ∧ (0 ≤ j ∧ j < nx) ∧ (0 ≤ k ∧ k < ny) := ⟨Idx.down, Idx.down, Idx.up⟩

theorem fteik3d_sweep_L162c9_ctx6 (i i1 j j1 k k1 nx ny nz sgntx sgnty sgntz sgnvx sgnvy sgnvz : Int) (_ : 2 ≤ nz) (_ : 2 ≤ nx) (_ : 2 ≤ ny) (_ : k ≤ (ny - 2)) (_ : (-1) < k) (_ : 1 ≤ j) (_ : j < nx) (_ : i ≤ (nz - 2)) (_ : (-1) < i) (_ : sgnvz = 0) (_ : sgnvx = 1) (_ : sgnvy = 0) (_ : sgntz = -1) (_ : sgntx = 1) (_ : sgnty = -1) (_ : i1 = (i - sgnvz)) (_ : j1 = (j - sgnvx)) (_ : k1 = (k - sgnvy)) :
    (0 ≤ i ∧ i < nz) ∧ (0 ≤ j ∧ j < nx) ∧ (0 ≤ k ∧ k < ny) := ⟨Idx.down, Idx.up, Idx.down⟩

theorem fteik3d_sweep_L162c9_ctx7 (i i1 j j1 k k1 nx ny nz sgntx sgnty sgntz sgnvx sgnvy sgnvz : Int) (_ : 2 ≤ nz) (_ : 2 ≤ nx) (_ : 2 ≤ ny) (_ : k ≤ (ny - 2)) (_ : (-1) < k) (_ : j ≤ (nx - 2)) (_ : (-1) < j) (_ : i ≤ (nz - 2)) (_ : (-1) < i) (_ : sgnvz = 0) (_ : sgnvx = 0) (_ : sgnvy = 0) (_ : sgntz = -1) (_ : sgntx = -1) (_ : sgnty = -1) (_ : i1 = (i - sgnvz)) (_ : j1 = (j - sgnvx)) (_ : k1 = (k - sgnvy)) :
    (0 ≤ i ∧ i < nz) ∧ (0 ≤ j ∧ j < nx) ∧ (0 ≤ k ∧ k < ny) := ⟨Idx.down, Idx.down, Idx.down⟩

theorem fteik3d_sweep_L163c4_ctx0 (i i1 j j1 k k1 nx ny nz sgntx sgnty sgntz sgnvx sgnvy sgnvz : Int) (_ : 2 ≤ nz) (_ : 2 ≤ nx) (_ : 2 ≤ ny) (_ : 1 ≤ k) (_ : k < ny) (_ : 1 ≤ j) (_ : j < nx) (_ : 1 ≤ i) (_ : i < nz) (_ : sgnvz = 1) (_ : sgnvx = 1) (_ : sgnvy = 1) (_ : sgntz = 1) (_ : sgntx = 1) (_ : sgnty = 1) (_ : i1 = (i - sgnvz)) (_ : j1 = (j - sgnvx)) (_ : k1 = (k - sgnvy)) :
    (0 ≤ i ∧ i < nz) ∧ (0 ≤ j ∧ j < nx) ∧ (0 ≤ k ∧ k < ny) := ⟨Idx.up, Idx.up, Idx.up⟩

theorem fteik3d_sweep_L163c4_ctx1 (i i1 j j1 k k1 nx ny nz sgntx sgnty sgntz sgnvx sgnvy sgnvz : Int) (_ : 2 ≤ nz) (_ : 2 ≤ nx) (_ : 2 ≤ ny) (_ : 1 ≤ k) (_ : k < ny) (_ : j ≤ (nx - 2)) (_ : (-1) < j) (_ : 1 ≤ i) (_ : i < nz) (_ : sgnvz = 1) (_ : sgnvx = 0) (_ : sgnvy = 1) (_ : sgntz = 1) (_ : sgntx = -1) (_ : sgnty = 1) (_ : i1 = (i - sgnvz)) (_ : j1 = (j - sgnvx)) (_ : k1 = (k - sgnvy)) :
    (0 ≤ i ∧ i < nz) ∧ (0 ≤ j ∧ j < nx) ∧ (0 ≤ k ∧ k < ny) := ⟨Idx.up, Idx.down, Idx.up⟩

theorem fteik3d_sweep_L163c4_ctx2 (i i1 j j1 k k1 nx ny nz sgntx sgnty sgntz sgnvx sgnvy sgnvz : Int) (_ : 2 ≤ nz) (_ : 2 ≤ nx) (_ : 2 ≤ ny) (_ : k ≤ (ny - 2)) (_ : (-1) < k) (_ : 1 ≤ j) (_ : j < nx) (_ : 1 ≤ i) (_ : i < nz) (_ : sgnvz = 1) (_ : sgnvx = 1) (_ : sgnvy = 0) (_ : sgntz = 1) (_ : sgntx = 1) (_ : sgnty = -1) (_ : i1 = (i - sgnvz)) (_ : j1 = (j - sgnvx)) (_ : k1 = (k - sgnvy)) :
    (0 ≤ i ∧ i < nz) ∧ (0 ≤ j ∧ j < nx) ∧ (0 ≤ k ∧ k < ny) := ⟨Idx.up, Idx.up, Idx.down⟩

theorem fteik3d_sweep_L163c4_ctx3 (i i1 j j1 k k1 nx ny nz sgntx sgnty sgntz sgnvx sgnvy sgnvz : Int) (_ : 2 ≤ nz) (_ : 2 ≤ nx) (_ : 2 ≤ ny) (_ : k ≤ (ny - 2)) (_ : (-1) < k) (_ : j ≤ (nx - 2)) (_ : (-1) < j) (_ : 1 ≤ i) (_ : i < nz) (_ : sgnvz = 1) (_ : sgnvx = 0) (_ : sgnvy = 0) (_ : sgntz = 1) (_ : sgntx = -1) (_ : sgnty = -1) (_ : i1 = (i - sgnvz)) (_ : j1 = (j - sgnvx)) (_ : k1 = (k - sgnvy)) :
    (0 ≤ i ∧ i < nz) ∧ (0 ≤ j ∧ j < nx) ∧ (0 ≤ k ∧ k < ny) := ⟨Idx.up, Idx.down, Idx.down⟩

theorem fteik3d_sweep_L163c4_ctx4 (i i1 j j1 k k1 nx ny nz sgntx sgnty sgntz sgnvx sgnvy sgnvz : Int) (_ : 2 ≤ nz) (_ : 2 ≤ nx) (_ : 2 ≤ ny) (_ : 1 ≤ k) (_ : k < ny) (_ : 1 ≤ j) (_ : j < nx) (_ : i ≤ (nz - 2)) (_ : (-1) < i) (_ : sgnvz = 0) (_ : sgnvx = 1) (_ : sgnvy = 1) (_ : sgntz = -1) (_ : sgntx = 1) (_ : sgnty = 1) (_ : i1 = (i - sgnvz)) (_ : j1 = (j - sgnvx)) (_ : k1 = (k - sgnvy)) :
    (0 ≤ i ∧ i < nz) ∧ (0 ≤ j ∧ j < nx) ∧ (0 ≤ k ∧ k < ny) := ⟨Idx.down, Idx.up, Idx.up⟩

theorem fteik3d_sweep_L163c4_ctx5 (i i1 j j1 k k1 nx ny nz sgntx sgnty sgntz sgnvx sgnvy sgnvz : Int) (_ : 2 ≤ nz) (_ : 2 ≤ nx) (_ : 2 ≤ ny) (_ : 1 ≤ k) (_ : k < ny) (_ : j ≤ (nx - 2)) (_ : (-1) < j) (_ : i ≤ (nz - 2)) (_ : (-1) < i) (_ : sgnvz = 0) (_ : sgnvx = 0) (_ : sgnvy = 1) (_ : sgntz = -1) (_ : sgntx = -1) (_ : sgnty = 1) (_ : i1 = (i - sgnvz)) (_ : j1 = (j - sgnvx)) (_ : k1 = (k - sgnvy)) :
    (0 ≤ i ∧ i < nz) ∧ (0 ≤ j ∧ j < nx) ∧ (0 ≤ k ∧ k < ny) := ⟨Idx.down, Idx.down, Idx.up⟩

theorem fteik3d_sweep_L163c4_ctx6 (i i1 j j1 k k1 nx ny nz sgntx sgnty sgntz sgnvx sgnvy sgnvz : Int) (_ : 2 ≤ nz) (_ : 2 ≤ nx) (_ : 2 ≤ ny) (_ : k ≤ (ny - 2)) (_ : (-1) < k) (_ : 1 ≤ j) (_ : j < nx) (_ : i ≤ (nz - 2)) (_ : (-1) < i) (_ : sgnvz = 0) (_ : sgnvx = 1) (_ : sgnvy = 0) (_ : sgntz = -1) (_ : sgntx = 1) (_ : sgnty = -1) (_ : i1 = (i - sgnvz)) (_ : j1 = (j - sgnvx)) (_ : k1 = (k - sgnvy)) :
    (0 ≤ i ∧ i < nz) ∧ (0 ≤ j ∧ j < nx) ∧ (0 ≤ k ∧ k < ny) := ⟨Idx.down, Idx.up, Idx.down⟩

theorem fteik3d_sweep_L163c4_ctx7 (i i1 j j1 k k1 nx ny nz sgntx sgnty sgntz sgnvx sgnvy sgnvz : Int) (_ : 2 ≤ nz) (_ : 2 ≤ nx) (_ : 2 ≤ ny) (_ : k ≤ (ny - 2)) (_ : (-1) < k) (_ : j ≤ (nx - 2)) (_ : (-1) < j) (_ : i ≤ (nz - 2)) (_ : (-1) < i) (_ : sgnvz = 0) (_ : sgnvx = 0) (_ : sgnvy = 0) (_ : sgntz = -1) (_ : sgntx = -1) (_ : sgnty = -1) (_ : i1 = (i - sgnvz)) (_ : j1 = (j - sgnvx)) (_ : k1 = (k - sgnvy)) :
    (0 ≤ i ∧ i < nz) ∧ (0 ≤ j ∧ j < nx) ∧ (0 ≤ k ∧ k < ny) := ⟨Idx.down, Idx.down, Idx.down⟩

theorem fteik3d_sweep_L166c16_ctx0 (i i1 j j1 k k1 nx ny nz sgntx sgnty sgntz sgnvx sgnvy sgnvz : Int) (_ : 2 ≤ nz) (_ : 2 ≤ nx) (_ : 2 ≤ ny) (_ : 1 ≤ k) (_ : k < ny) (_ : 1 ≤ j) (_ : j < nx) (_ : 1 ≤ i) (_ : i < nz) (_ : sgnvz = 1) (_ : sgnvx = 1) (_ : sgnvy = 1) (_ : sgntz = 1) (_ : sgntx = 1) (_ : sgnty = 1) (_ : i1 = (i - sgnvz)) (_ : j1 = (j - sgnvx)) (_ : k1 = (k - sgnvy)) :
    (0 ≤ i ∧ i < nz) ∧ (0 ≤ j ∧ j < nx) ∧ (0 ≤ k ∧ k < ny) := ⟨Idx.up, Idx.up, Idx.up⟩

theorem fteik3d_sweep_L166c16_ctx1 (i i1 j j1 k k1 nx ny nz sgntx sgnty sgntz sgnvx sgnvy sgnvz : Int) (_ : 2 ≤ nz) (_ : 2 ≤ nx) (_ : 2 ≤ ny) (_ : 1 ≤ k) (_ : k < ny) (_ : j ≤ (nx - 2)) (_ : (-1) < j) (_ : 1 ≤ i) (_ : i < nz) (_ : sgnvz = 1) (_ : sgnvx = 0) (_ : sgnvy = 1) (_ : sgntz = 1) (_ : sgntx = -1) (_ : sgnty = 1) (_ : i1 = (i - sgnvz)) (_ : j1 = (j - sgnvx)) (_ : k1 = (k - sgnvy)) :
    (0 ≤ i ∧ i < nz) ∧ (0 ≤ j ∧ j < nx) ∧ (0 ≤ k ∧ k < ny) := ⟨Idx.up, Idx.down, Idx.up⟩

theorem fteik3d_sweep_L166c16_ctx2 (i i1 j j1 k k1 nx ny nz sgntx sgnty sgntz sgnvx sgnvy sgnvz : Int) (_ : 2 ≤ nz) (_ : 2 ≤ nx) (_ : 2 ≤ ny) (_ : k ≤ (ny - 2)) (_ : (-1) < k) (_ : 1 ≤ j) (_ : j < nx) (_ : 1 ≤ i) (_ : i < nz) (_ : sgnvz = 1) (_ : sgnvx = 1) (_ : sgnvy = 0) (_ : sgntz = 1) (_ : sgntx = 1) (_ : sgnty = -1) (_ : i1 = (i - sgnvz)) (_ : j1 = (j - sgnvx)) (_ : k1 = (k - sgnvy)) :
    (0 ≤ i ∧ i < nz) ∧ (0 ≤ j ∧ j < nx) ∧ (0 ≤ k ∧ k < ny) := ⟨Idx.up, Idx.up, Idx.down⟩

theorem fteik3d_sweep_L166c16_ctx3 (i i1 j j1 k k1 nx ny nz sgntx sgnty sgntz sgnvx sgnvy sgnvz : Int) (_ : 2 ≤ nz) (_ : 2 ≤ nx) (_ : 2 ≤ ny) (_ : k ≤ (ny - 2)) (_ : (-1) < k) (_ : j ≤ (nx - 2)) (_ : (-1) < j) (_ : 1 ≤ i) (_ : i < nz) (_ : sgnvz = 1) (_ : sgnvx = 0) (_ : sgnvy = 0) (_ : sgntz = 1) (_ : sgntx = -1) (_ : sgnty = -1) (_ : i1 = (i - sgnvz)) (_ : j1 = (j - sgnvx)) (_ : k1 = (k - sgnvy)) :
    (0 ≤ i ∧ i < nz) ∧ (0 ≤ j ∧ j < nx) ∧ (0 ≤ k ∧ k < ny) := ⟨Idx.up, Idx.down, Idx.down⟩

theorem fteik3d_sweep_L166c16_ctx4 (i i1 j j1 k k1 nx ny nz sgntx sgnty sgntz sgnvx sgnvy sgnvz : Int) (_ : 2 ≤ nz) (_ : 2 ≤ nx) (_ : 2 ≤ ny) (_ : 1 ≤ k) (_ : k < ny) (_ : 1 ≤ j) (_ : j < nx) (_ : i ≤ (nz - 2)) (_ : (-1) < i) (_ : sgnvz = 0) (_ : sgnvx = 1) (_ : sgnvy = 1) (_ : sgntz = -1) (_ : sgntx = 1) (_ : sgnty = 1) (_ : i1 = (i - sgnvz)) (_ : j1 = (j - sgnvx)) (_ : k1 = (k - sgnvy)) :
    (0 ≤ i ∧ i < nz) ∧ (0 ≤ j ∧ j < nx) ∧ (0 ≤ k ∧ k < ny) := ⟨Idx.down, Idx.up, Idx.up⟩

theorem fteik3d_sweep_L166c16_ctx5 (i i1 j j1 k k1 nx ny nz sgntx sgnty sgntz sgnvx sgnvy sgnvz : Int) (_ : 2 ≤ nz) (_ : 2 ≤ nx) (_ : 2 ≤ ny) (_ : 1 ≤ k) (_ : k < ny) (_ : j ≤ (nx - 2)) (_ : (-1) < j) (_ : i ≤ (nz - 2)) (_ : (-1) < i) (_ : sgnvz = 0) (_ : sgnvx = 0) (_ : sgnvy = 1) (_ : sgntz = -1) (_ : sgntx = -1) (_ : sgnty = 1) (_ : i1 = (i - sgnvz)) (_ : j1 = (j - sgnvx)) (_ : k1 = (k - sgnvy)) :
    (0 ≤ i ∧ i < nz) ∧ (0 ≤ j ∧ j < nx) ∧ (0 ≤ k ∧ k < ny) := ⟨Idx.down, Idx.down, Idx.up⟩

theorem fteik3d_sweep_L166c16_ctx6 (i i1 j j1 k k1 nx ny nz sgntx sgnty sgntz sgnvx sgnvy sgnvz : Int) (_ : 2 ≤ nz) (_ : 2 ≤ nx) (_ : 2 ≤ ny) (_ : k ≤ (ny - 2)) (_ : (-1) < k) (_ : 1 ≤ j) (_ : j < nx) (_ : i ≤ (nz - 2)) (_ : (-1) < i) (_ : sgnvz = 0) (_ : sgnvx = 1) (_ : sgnvy = 0) (_ : sgntz = -1) (_ : sgntx = 1) (_ : sgnty = -1) (_ : i1 = (i - sgnvz)) (_ : j1 = (j - sgnvx)) (_ : k1 = (k - sgnvy)) :
    (0 ≤ i ∧ i < nz) ∧ (0 ≤ j ∧ j < nx) ∧ (0 ≤ k ∧ k < ny) := ⟨Idx.down, Idx.up, Idx.down⟩

theorem fteik3d_sweep_L166c16_ctx7 (i i1 j j1 k k1 nx ny nz sgntx sgnty sgntz sgnvx sgnvy sgnvz : Int) (_ : 2 ≤ nz) (_ : 2 ≤ nx) (_ : 2 ≤ ny) (_ : k ≤ (ny - 2)) (_ : (-1) < k) (_ : j ≤ (nx - 2)) (_ : (-1) < j) (_ : i ≤ (nz - 2)) (_ : (-1) < i) (_ : sgnvz = 0) (_ : sgnvx = 0) (_ : sgnvy = 0) (_ : sgntz = -1) (_ : sgntx = -1) (_ : sgnty = -1) (_ : i1 = (i - sgnvz)) (_ : j1 = (j - sgnvx)) (_ : k1 = (k - sgnvy)) :
    (0 ≤ i ∧ i < nz) ∧ (0 ≤ j ∧ j < nx) ∧ (0 ≤ k ∧ k < ny) := ⟨Idx.down, Idx.down, Idx.down⟩

theorem fteik3d_sweep_L167c11_ctx0 (i i1 j j1 k k1 nx ny nz sgntx sgnty sgntz sgnvx sgnvy sgnvz : Int) (_ : 2 ≤ nz) (_ : 2 ≤ nx) (_ : 2 ≤ ny) (_ : 1 ≤ k) (_ : k < ny) (_ : 1 ≤ j) (_ : j < nx) (_ : 1 ≤ i) (_ : i < nz) (_ : sgnvz = 1) (_ : sgnvx = 1) (_ : sgnvy = 1) (_ : sgntz = 1) (_ : sgntx = 1) (_ : sgnty = 1) (_ : i1 = (i - sgnvz)) (_ : j1 = (j - sgnvx)) (_ : k1 = (k - sgnvy)) :
    (0 ≤ i ∧ i < nz) ∧ (0 ≤ j ∧ j < nx) ∧ (0 ≤ k ∧ k < ny) := ⟨Idx.up, Idx.up, Idx.up⟩

theorem fteik3d_sweep_L167c11_ctx1 (i i1 j j1 k k1 nx ny nz sgntx sgnty sgntz sgnvx sgnvy sgnvz : Int) (_ : 2 ≤ nz) (_ : 2 ≤ nx) (_ : 2 ≤ ny) (_ : 1 ≤ k) (_ : k < ny) (_ : j ≤ (nx - 2)) (_ : (-1) < j) (_ : 1 ≤ i) (_ : i < nz) (_ : sgnvz = 1) (_ : sgnvx = 0) (_ : sgnvy = 1) (_ : sgntz = 1) (_ : sgntx = -1) (_ : sgnty = 1) (_ : i1 = (i - sgnvz)) (_ : j1 = (j - sgnvx)) (_ : k1 = (k - sgnvy)) :
    (0 ≤ i ∧ i < nz) ∧ (0 ≤ j ∧ j < nx) ∧ (0 ≤ k ∧ k < ny) := ⟨Idx.up, Idx.down, Idx.up⟩

theorem fteik3d_sweep_L167c11_ctx2 (i i1 j j1 k k1 nx ny nz sgntx sgnty sgntz sgnvx sgnvy sgnvz : Int) (_ : 2 ≤ nz) (_ : 2 ≤ nx) (_ : 2 ≤ ny) (_ : k ≤ (ny - 2)) (_ : (-1) < k) (_ : 1 ≤ j) (_ : j < nx) (_ : 1 ≤ i) (_ : i < nz) (_ : sgnvz = 1) (_ : sgnvx = 1) (_ : sgnvy = 0) (_ : sgntz = 1) (_ : sgntx = 1) (_ : sgnty = -1) (_ : i1 = (i - sgnvz)) (_ : j1 = (j - sgnvx)) (_ : k1 = (k - sgnvy)) :
    (0 ≤ i ∧ i < nz) ∧ (0 ≤ j ∧ j < nx) ∧ (0 ≤ k ∧ k < ny) := ⟨Idx.up, Idx.up, Idx.down⟩

theorem fteik3d_sweep_L167c11_ctx3 (i i1 j j1 k k1 nx ny nz sgntx sgnty sgntz sgnvx sgnvy sgnvz : Int) (_ : 2 ≤ nz) (_ : 2 ≤ nx) (_ : 2 ≤ ny) (_ : k ≤ (ny - 2)) (_ : (-1) < k) (_ : j ≤ (nx - 2)) (_ : (-1) < j) (_ : 1 ≤ i) (_ : i < nz) (_ : sgnvz = 1) (_ : sgnvx = 0) (_ : sgnvy = 0) (_ : sgntz = 1) (_ : sgntx = -1) (_ : sgnty = -1) (_ : i1 = (i - sgnvz)) (_ : j1 = (j - sgnvx)) (_ : k1 = (k - sgnvy)) :
    (0 ≤ i ∧ i < nz) ∧ (0 ≤ j ∧ j < nx) ∧ (0 ≤ k ∧ k < ny) := ⟨Idx.up, Idx.down, Idx.down⟩

theorem fteik3d_sweep_L167c11_ctx4 (i i1 j j1 k k1 nx ny nz sgntx sgnty sgntz sgnvx sgnvy sgnvz : Int) (_ : 2 ≤ nz) (_ : 2 ≤ nx) (_ : 2 ≤ ny) (_ : 1 ≤ k) (_ : k < ny) (_ : 1 ≤ j) (_ : j < nx) (_ : i ≤ (nz - 2)) (_ : (-1) < i) (_ : sgnvz = 0) (_ : sgnvx = 1) (_ : sgnvy = 1) (_ : sgntz = -1) (_ : sgntx = 1) (_ : sgnty = 1) (_ : i1 = (i - sgnvz)) (_ : j1 = (j - sgnvx)) (_ : k1 = (k - sgnvy)) :
    (0 ≤ i ∧ i < nz) ∧ (0 ≤ j ∧ j < nx) ∧ (0 ≤ k ∧ k < ny) := ⟨Idx.down, Idx.up, Idx.up⟩

theorem fteik3d_sweep_L167c11_ctx5 (i i1 j j1 k k1 nx ny nz sgntx sgnty sgntz sgnvx sgnvy sgnvz : Int) (_ : 2 ≤ nz) (_ : 2 ≤ nx) (_ : 2 ≤ ny) (_ : 1 ≤ k) (_ : k < ny) (_ : j ≤ (nx - 2)) (_ : (-1) < j) (_ : i ≤ (nz - 2)) (_ : (-1) < i) (_ : sgnvz = 0) (_ : sgnvx = 0) (_ : sgnvy = 1) (_ : sgntz = -1) (_ : sgntx = -1) (_ : sgnty = 1) (_ : i1 = (i - sgnvz)) (_ : j1 = (j - sgnvx)) (_ : k1 = (k - sgnvy)) :
    (0 ≤ i ∧ i < nz) ∧ (0 ≤ j ∧ j < nx) ∧ (0 ≤ k ∧ k < ny) := ⟨Idx.down, Idx.down, Idx.up⟩

theorem fteik3d_sweep_L167c11_ctx6 (i i1 j j1 k k1 nx ny nz sgntx sgnty sgntz sgnvx sgnvy sgnvz : Int) (_ : 2 ≤ nz) (_ : 2 ≤ nx) (_ : 2 ≤ ny) (_ : k ≤ (ny - 2)) (_ : (-1) < k) (_ : 1 ≤ j) (_ : j < nx) (_ : i ≤ (nz - 2)) (_ : (-1) < i) (_ : sgnvz = 0) (_ : sgnvx = 1) (_ : sgnvy = 0) (_ : sgntz = -1) (_ : sgntx = 1) (_ : sgnty = -1) (_ : i1 = (i - sgnvz)) (_ : j1 = (j - sgnvx)) (_ : k1 = (k - sgnvy)) :
    (0 ≤ i ∧ i < nz) ∧ (0 ≤ j ∧ j < nx) ∧ (0 ≤ k ∧ k < ny) := ⟨Idx.down, Idx.up, Idx.down⟩

theorem fteik3d_sweep_L167c11_ctx7 (i i1 j j1 k k1 nx ny nz sgntx sgnty sgntz sgnvx sgnvy sgnvz : Int) (_ : 2 ≤ nz) (_ : 2 ≤ nx) (_ : 2 ≤ ny) (_ : k ≤ (ny - 2)) (_ : (-1) < k) (_ : j ≤ (nx - 2)) (_ : (-1) < j) (_ : i ≤ (nz - 2)) (_ : (-1) < i) (_ : sgnvz = 0) (_ : sgnvx = 0) (_ : sgnvy = 0) (_ : sgntz = -1) (_ : sgntx = -1) (_ : sgnty = -1) (_ : i1 = (i - sgnvz)) (_ : j1 = (j - sgnvx)) (_ : k1 = (k - sgnvy)) :
    (0 ≤ i ∧ i < nz) ∧ (0 ≤ j ∧ j < nx) ∧ (0 ≤ k ∧ k < ny) := ⟨Idx.down, Idx.down, Idx.down⟩

theorem fteik3d_sweep_L168c12_ctx0 (i i1 j j1 k k1 nx ny nz sgntx sgnty sgntz sgnvx sgnvy sgnvz : Int) (_ : 2 ≤ nz) (_ : 2 ≤ nx) (_ : 2 ≤ ny) (_ : 1 ≤ k) (_ : k < ny) (_ : 1 ≤ j) (_ : j < nx) (_ : 1 ≤ i) (_ : i < nz) (_ : sgnvz = 1) (_ : sgnvx = 1) (_ : sgnvy = 1) (_ : sgntz = 1) (_ : sgntx = 1) (_ : sgnty = 1) (_ : i1 = (i - sgnvz)) (_ : j1 = (j - sgnvx)) (_ : k1 = (k - sgnvy)) :
    (0 ≤ i ∧ i < nz) ∧ (0 ≤ j ∧ j < nx) ∧ (0 ≤ k ∧ k < ny) ∧ (0 ≤ 0 ∧ 0 < 3) := ⟨Idx.up, Idx.up, Idx.up, by decide⟩

theorem fteik3d_sweep_L168c12_ctx1 (i i1 j j1 k k1 nx ny nz sgntx sgnty sgntz sgnvx sgnvy sgnvz : Int) (_ : 2 ≤ nz) (_ : 2 ≤ nx) (_ : 2 ≤ ny) (_ : 1 ≤ k) (_ : k < ny) (_ : j ≤ (nx - 2)) (_ : (-1) < j) (_ : 1 ≤ i) (_ : i < nz) (_ : sgnvz = 1) (_ : sgnvx = 0) (_ : sgnvy = 1) (_ : sgntz = 1) (_ : sgntx = -1) (_ : sgnty = 1) (_ : i1 = (i - sgnvz)) (_ : j1 = (j - sgnvx)) (_ : k1 = (k - sgnvy)) :
    (0 ≤ i ∧ i < nz) ∧ (0 ≤ j ∧ j < nx) ∧ (0 ≤ k ∧ k < ny) ∧ (0 ≤ 0 ∧ 0 < 3) := ⟨Idx.up, Idx.down, Idx.up, by decide⟩

theorem fteik3d_sweep_L168c12_ctx2 (i i1 j j1 k k1 nx ny nz sgntx sgnty sgntz sgnvx sgnvy sgnvz : Int) (_ : 2 ≤ nz) (_ : 2 ≤ nx) (_ : 2 ≤ ny) (_ : k ≤ (ny - 2)) (_ : (-1) < k) (_ : 1 ≤ j) (_ : j < nx) (_ : 1 ≤ i) (_ : i < nz) (_ : sgnvz = 1) (_ : sgnvx = 1) (_ : sgnvy = 0) (_ : sgntz = 1) (_ : sgntx = 1) (_ : sgnty = -1) (_ : i1 = (i - sgnvz)) (_ : j1 = (j - sgnvx)) (_ : k1 = (k - sgnvy)) :
    (0 ≤ i ∧ i < nz) ∧ (0 ≤ j ∧ j < nx) ∧ (0 ≤ k ∧ k < ny) ∧ (0 ≤ 0 ∧ 0 < 3) := ⟨Idx.up, Idx.up, Idx.down, by decide⟩

theorem fteik3d_sweep_L168c12_ctx3 (i i1 j j1 k k1 nx ny nz sgntx sgnty sgntz sgnvx sgnvy sgnvz : Int) (_ : 2 ≤ nz) (_ : 2 ≤ nx) (_ : 2 ≤ ny) (_ : k ≤ (ny - 2)) (_ : (-1) < k) (_ : j ≤ (nx - 2)) (_ : (-1) < j) (_ : 1 ≤ i) (_ : i < nz) (_ : sgnvz = 1) (_ : sgnvx = 0) (_ : sgnvy = 0) (_ : sgntz = 1) (_ : sgntx = -1) (_ : sgnty = -1) (_ : i1 = (i - sgnvz)) (_ : j1 = (j - sgnvx)) (_ : k1 = (k - sgnvy)) :
    (0 ≤ i ∧ i < nz) ∧ (0 ≤ j ∧ j < nx) ∧ (0 ≤ k ∧ k < ny) ∧ (0 ≤ 0 ∧ 0 < 3) := ⟨Idx.up, Idx.down, Idx.down, by decide⟩

theorem fteik3d_sweep_L168c12_ctx4 (i i1 j j1 k k1 nx ny nz sgntx sgnty sgntz sgnvx sgnvy sgnvz : Int) (_ : 2 ≤ nz) (_ : 2 ≤ nx) (_ : 2 ≤ ny) (_ : 1 ≤ k) (_ : k < ny) (_ : 1 ≤ j) (_ : j < nx) (_ : i ≤ (nz - 2)) (_ : (-1) < i) (_ : sgnvz = 0) (_ : sgnvx = 1) (_ : sgnvy = 1) (_ : sgntz = -1) (_ : sgntx = 1) (_ : sgnty = 1) (_ : i1 = (i - sgnvz)) (_ : j1 = (j - sgnvx)) (_ : k1 = (k - sgnvy)) :
    (0 ≤ i ∧ i < nz) ∧ (0 ≤ j ∧ j < nx) ∧ (0 ≤ k ∧ k < ny) ∧ (0 ≤ 0 ∧ 0 < 3) := ⟨Idx.down, Idx.up, Idx.up, by decide⟩

theorem fteik3d_sweep_L168c12_ctx5 (i i1 j j1 k k1 nx ny nz sgntx sgnty sgntz sgnvx sgnvy sgnvz : Int) (_ : 2 ≤ nz) (_ : 2 ≤ nx) (_ : 2 ≤ ny) (_ : 1 ≤ k) (_ : k < ny) (_ : j ≤ (nx - 2)) (_ : (-1) < j) (_ : i ≤ (nz - 2)) (_ : (-1) < i) (_ : sgnvz = 0) (_ : sgnvx = 0) (_ : sgnvy = 1) (_ : sgntz = -1) (_ : sgntx = -1) (_ : sgnty = 1) (_ : i1 = (i - sgnvz)) (_ : j1 = (j - sgnvx)) (_ : k1 = (k - sgnvy)) :
    (0 ≤ i ∧ i < nz) ∧ (0 ≤ j ∧ j < nx) ∧ (0 ≤ k ∧ k < ny) ∧ (0 ≤ 0 ∧ 0 < 3) := ⟨Idx.down, Idx.down, Idx.up, by decide⟩

theorem fteik3d_sweep_L168c12_ctx6 (i i1 j j1 k k1 nx ny nz sgntx sgnty sgntz sgnvx sgnvy sgnvz : Int) (_ : 2 ≤ nz) (_ : 2 ≤ nx) (_ : 2 ≤ ny) (_ : k ≤ (ny - 2)) (_ : (-1) < k) (_ : 1 ≤ j) (_ : j < nx) (_ : i ≤ (nz - 2)) (_ : (-1) < i) (_ : sgnvz = 0) (_ : sgnvx = 1) (_ : sgnvy = 0) (_ : sgntz = -1) (_ : sgntx = 1) (_ : sgnty = -1) (_ : i1 = (i - sgnvz)) (_ : j1 = (j - sgnvx)) (_ : k1 = (k - sgnvy)) :
    (0 ≤ i ∧ i < nz) ∧ (0 ≤ j ∧ j < nx) ∧ (0 ≤ k ∧ k < ny) ∧ (0 ≤ 0 ∧ 0 < 3) := ⟨Idx.down, Idx.up, Idx.down, by decide⟩

theorem fteik3d_sweep_L168c12_ctx7 (i i1 j j1 k k1 nx ny nz sgntx sgnty sgntz sgnvx sgnvy sgnvz : Int) (_ : 2 ≤ nz) (_ : 2 ≤ nx) (_ : 2 ≤ ny) (_ : k ≤ (ny - 2)) (_ : (-1) < k) (_ : j ≤ (nx - 2)) (_ : (-1) < j) (_ : i ≤ (nz - 2)) (_ : (-1) < i) (_ : sgnvz = 0) (_ : sgnvx = 0) (_ : sgnvy = 0) (_ : sgntz = -1) (_ : sgntx = -1) (_ : sgnty = -1) (_ : i1 = (i - sgnvz)) (_ : j1 = (j - sgnvx)) (_ : k1 = (k - sgnvy)) :
    (0 ≤ i ∧ i < nz) ∧ (0 ≤ j ∧ j < nx) ∧ (0 ≤ k ∧ k < ny) ∧ (0 ≤ 0 ∧ 0 < 3) := ⟨Idx.down, Idx.down, Idx.down, by decide⟩

theorem fteik3d_sweep_L169c12_ctx0 (i i1 j j1 k k1 nx ny nz sgntx sgnty sgntz sgnvx sgnvy sgnvz : Int) (_ : 2 ≤ nz) (_ : 2 ≤ nx) (_ : 2 ≤ ny) (_ : 1 ≤ k) (_ : k < ny) (_ : 1 ≤ j) (_ : j < nx) (_ : 1 ≤ i) (_ : i < nz) (_ : sgnvz = 1) (_ : sgnvx = 1) (_ : sgnvy = 1) (_ : sgntz = 1) (_ : sgntx = 1) (_ : sgnty = 1) (_ : i1 = (i - sgnvz)) (_ : j1 = (j - sgnvx)) (_ : k1 = (k - sgnvy)) :
    (0 ≤ i ∧ i < nz) ∧ (0 ≤ j ∧ j < nx) ∧ (0 ≤ k ∧ k < ny) ∧ (0 ≤ 1 ∧ 1 < 3) := ⟨Idx.up, Idx.up, Idx.up, by decide⟩

theorem fteik3d_sweep_L169c12_ctx1 (i i1 j j1 k k1 nx ny nz sgntx sgnty sgntz sgnvx sgnvy sgnvz : Int) (_ : 2 ≤ nz) (_ : 2 ≤ nx) (_ : 2 ≤ ny) (_ : 1 ≤ k) (_ : k < ny) (_ : j ≤ (nx - 2)) (_ : (-1) < j) (_ : 1 ≤ i) (_ : i < nz) (_ : sgnvz = 1) (_ : sgnvx = 0) (_ : sgnvy = 1) (_ : sgntz = 1) (_ : sgntx = -1) (_ : sgnty = 1) (_ : i1 = (i - sgnvz)) (_ : j1 = (j - sgnvx)) (_ : k1 = (k - sgnvy)) :
    (0 ≤ i ∧ i < nz) ∧ (0 ≤ j ∧ j < nx) ∧ (0 ≤ k ∧ k < ny) ∧ (0 ≤ 1 ∧ 1 < 3) := ⟨Idx.up, Idx.down, Idx.up, by decide⟩

theorem fteik3d_sweep_L169c12_ctx2 (i i1 j j1 k k1 nx ny nz sgntx sgnty sgntz sgnvx sgnvy sgnvz : Int) (_ : 2 ≤ nz) (_ : 2 ≤ nx) (_ : 2 ≤ ny) (_ : k ≤ (ny - 2)) (_ : (-1) < k) (_ : 1 ≤ j) (_ : j < nx) (_ : 1 ≤ i) (_ : i < nz) (_ : sgnvz = 1) (_ : sgnvx = 1) (_ : sgnvy = 0) (_ : sgntz = 1) (_ : sgntx = 1) (_ : sgnty = -1) (_ : i1 = (i - sgnvz)) (_ : j1 = (j - sgnvx)) (_ : k1 = (k - sgnvy)) :
    (0 ≤ i ∧ i < nz) ∧ (0 ≤ j ∧ j < nx) ∧ (0 ≤ k ∧ k < ny) ∧ (0 ≤ 1 ∧ 1 < 3) := ⟨Idx.up, Idx.up, Idx.down, by decide⟩

theorem fteik3d_sweep_L169c12_ctx3 (i i1 j j1 k k1 nx ny nz sgntx sgnty sgntz sgnvx sgnvy sgnvz : Int) (_ : 2 ≤ nz) (_ : 2 ≤ nx) (_ : 2 ≤ ny) (_ : k ≤ (ny - 2)) (_ : (-1) < k) (_ : j ≤ (nx - 2)) (_ : (-1) < j) (_ : 1 ≤ i) (_ : i < nz) (_ : sgnvz = 1) (_ : sgnvx = 0) (_ : sgnvy = 0) (_ : sgntz = 1) (_ : sgntx = -1) (_ : sgnty = -1) (_ : i1 = (i - sgnvz)) (_ : j1 = (j - sgnvx)) (_ : k1 = (k - sgnvy)) :
    (0 ≤ i ∧ i < nz) ∧ (0 ≤ j ∧ j < nx) ∧ (0 ≤ k ∧ k < ny) ∧ (0 ≤ 1 ∧ 1 < 3) := ⟨Idx.up, Idx.down, Idx.down, by decide⟩

theorem fteik3d_sweep_L169c12_ctx4 (i i1 j j1 k k1 nx ny nz sgntx sgnty sgntz sgnvx sgnvy sgnvz : Int) (_ : 2 ≤ nz) (_ : 2 ≤ nx) (_ : 2 ≤ ny) (_ : 1 ≤ k) (_ : k < ny) (_ : 1 ≤ j) (_ : j < nx) (_ : i ≤ (nz - 2)) (_ : (-1) < i) (_ : sgnvz = 0) (_ : sgnvx = 1) (_ : sgnvy = 1) (_ : sgntz = -1) (_ : sgntx = 1) (_ : sgnty = 1) (_ : i1 = (i - sgnvz)) (_ : j1 = (j - sgnvx)) (_ : k1 = (k - sgnvy)) :
    (0 ≤ i ∧ i < nz) ∧ (0 ≤ j ∧ j < nx) ∧ (0 ≤ k ∧ k < ny) ∧ (0 ≤ 1 ∧ 1 < 3) := ⟨Idx.down, Idx.up, Idx.up, by decide⟩

theorem fteik3d_sweep_L169c12_ctx5 (i i1 j j1 k k1 nx ny nz sgntx sgnty sgntz sgnvx sgnvy sgnvz : Int) (_ : 2 ≤ nz) (_ : 2 ≤ nx) (_ : 2 ≤ ny) (_ : 1 ≤ k) (_ : k < ny) (_ : j ≤ (nx - 2)) (_ : (-1) < j) (_ : i ≤ (nz - 2)) (_ : (-1) < i) (_ : sgnvz = 0) (_ : sgnvx = 0) (_ : sgnvy = 1) (_ : sgntz = -1) (_ : sgntx = -1) (_ : sgnty = 1) (_ : i1 = (i - sgnvz)) (_ : j1 = (j - sgnvx)) (_ : k1 = (k - sgnvy)) :
    (0 ≤ i ∧ i < nz) ∧ (0 ≤ j ∧ j < nx) ∧ (0 ≤ k ∧ k < ny) ∧ (0 ≤ 1 ∧ 1 < 3) := ⟨Idx.down, Idx.down, Idx.up, by decide⟩

theorem fteik3d_sweep_L169c12_ctx6 (i i1 j j1 k k1 nx ny nz sgntx sgnty sgntz sgnvx sgnvy sgnvz : Int) (_ : 2 ≤ nz) (_ : 2 ≤ nx) (_ : 2 ≤ ny) (_ : k ≤ (ny - 2)) (_ : (-1) < k) (_ : 1 ≤ j) (_ : j < nx) (_ : i ≤ (nz - 2)) (_ : (-1) < i) (_ : sgnvz = 0) (_ : sgnvx = 1) (_ : sgnvy = 0) (_ : sgntz = -1) (_ : sgntx = 1) (_ : sgnty = -1) (_ : i1 = (i - sgnvz)) (_ : j1 = (j - sgnvx)) (_ : k1 = (k - sgnvy)) :
    (0 ≤ i ∧ i < nz) ∧ (0 ≤ j ∧ j < nx) ∧ (0 ≤ k ∧ k < ny) ∧ (0 ≤ 1 ∧ 1 < 3) := ⟨Idx.down, Idx.up, Idx.down, by decide⟩

theorem fteik3d_sweep_L169c12_ctx7 (i i1 j j1 k k1 nx ny nz sgntx sgnty sgntz sgnvx sgnvy sgnvz : Int) (_ : 2 ≤ nz) (_ : 2 ≤ nx) (_ : 2 ≤ ny) (_ : k ≤ (ny - 2)) (_ : (-1) < k) (_ : j ≤ (nx - 2)) (_ : (-1) < j) (_ : i ≤ (nz - 2)) (_ : (-1) < i) (_ : sgnvz = 0) (_ : sgnvx = 0) (_ : sgnvy = 0) (_ : sgntz = -1) (_ : sgntx = -1) (_ : sgnty = -1) (_ : i1 = (i - sgnvz)) (_ : j1 = (j - sgnvx)) (_ : k1 = (k - sgnvy)) :
    (0 ≤ i ∧ i < nz) ∧ (0 ≤ j ∧ j < nx) ∧ (0 ≤ k ∧ k < ny) ∧ (0 ≤ 1 ∧ 1 < 3) := ⟨Idx.down, Idx.down, Idx.down, by decide⟩

theorem fteik3d_sweep_L170c12_ctx0 (i i1 j j1 k k1 nx ny nz sgntx sgnty sgntz sgnvx sgnvy sgnvz : Int) (_ : 2 ≤ nz) (_ : 2 ≤ nx) (_ : 2 ≤ ny) (_ : 1 ≤ k) (_ : k < ny) (_ : 1 ≤ j) (_ : j < nx) (_ : 1 ≤ i) (_ : i < nz) (_ : sgnvz = 1) (_ : sgnvx = 1) (_ : sgnvy = 1) (_ : sgntz = 1) (_ : sgntx = 1) (_ : sgnty = 1) (_ : i1 = (i - sgnvz)) (_ : j1 = (j - sgnvx)) (_ : k1 = (k - sgnvy)) :
    (0 ≤ i ∧ i < nz) ∧ (0 ≤ j ∧ j < nx) ∧ (0 ≤ k ∧ k < ny) ∧ (0 ≤ 2 ∧ 2 < 3) := ⟨Idx.up, Idx.up, Idx.up, by decide⟩

theorem fteik3d_sweep_L170c12_ctx1 (i i1 j j1 k k1 nx ny nz sgntx sgnty sgntz sgnvx sgnvy sgnvz : Int) (_ : 2 ≤ nz) (_ : 2 ≤ nx) (_ : 2 ≤ ny) (_ : 1 ≤ k) (_ : k < ny) (_ : j ≤ (nx - 2)) (_ : (-1) < j) (_ : 1 ≤ i) (_ : i < nz) (_ : sgnvz = 1) (_ : sgnvx = 0) (_ : sgnvy = 1) (_ : sgntz = 1) (_ : sgntx = -1) (_ : sgnty = 1) (_ : i1 = (i - sgnvz)) (_ : j1 = (j - sgnvx)) (_ : k1 = (k - sgnvy)) :
    (0 ≤ i ∧ i < nz) ∧ (0 ≤ j ∧ j < nx) ∧ (0 ≤ k ∧ k < ny) ∧ (0 ≤ 2 ∧ 2 < 3) := ⟨Idx.up, Idx.down, Idx.up, by decide⟩

theorem fteik3d_sweep_L170c12_ctx2 (i i1 j j1 k k1 nx ny nz sgntx sgnty sgntz sgnvx sgnvy sgnvz : Int) (_ : 2 ≤ nz) (_ : 2 ≤ nx) (_ : 2 ≤ ny) (_ : k ≤ (ny - 2)) (_ : (-1) < k) (_ : 1 ≤ j) (_ : j < nx) (_ : 1 ≤ i) (_ : i < nz) (_ : sgnvz = 1) (_ : sgnvx = 1) (_ : sgnvy = 0) (_ : sgntz = 1) (_ : sgntx = 1) (_ : sgnty = -1) (_ : i1 = (i - sgnvz)) (_ : j1 = (j - sgnvx)) (_ : k1 = (k - sgnvy)) :
    (0 ≤ i ∧ i < nz) ∧ (0 ≤ j ∧ j < nx) ∧ (0 ≤ k ∧ k < ny) ∧ (0 ≤ 2 ∧ 2 < 3) := ⟨Idx.up, Idx.up, Idx.down, by decide⟩

theorem fteik3d_sweep_L170c12_ctx3 (i i1 j j1 k k1 nx ny nz sgntx sgnty sgntz sgnvx sgnvy sgnvz : Int) (_ : 2 ≤ nz) (_ : 2 ≤ nx) (_ : 2 ≤ ny) (_ : k ≤ (ny - 2)) (_ : (-1) < k) (_ : j ≤ (nx - 2)) (_ : (-1) < j) (_ : 1 ≤ i) (_ : i < nz) (_ : sgnvz = 1) (_ : sgnvx = 0) (_ : sgnvy = 0) (_ : sgntz = 1) (_ : sgntx = -1) (_ : sgnty = -1) (_ : i1 = (i - sgnvz)) (_ : j1 = (j - sgnvx)) (_ : k1 = (k - sgnvy)) :
    (0 ≤ i ∧ i < nz) ∧ (0 ≤ j ∧ j < nx) ∧ (0 ≤ k ∧ k < ny) ∧ (0 ≤ 2 ∧ 2 < 3) := ⟨Idx.up, Idx.down, Idx.down, by decide⟩

theorem fteik3d_sweep_L170c12_ctx4 (i i1 j j1 k k1 nx ny nz sgntx sgnty sgntz sgnvx sgnvy sgnvz : Int) (_ : 2 ≤ nz) (_ : 2 ≤ nx) (_ : 2 ≤ ny) (_ : 1 ≤ k) (_ : k < ny) (_ : 1 ≤ j) (_ : j < nx) (_ : i ≤ (nz - 2)) (_ : (-1) < i) (_ : sgnvz = 0) (_ : sgnvx = 1) (_ : sgnvy = 1) (_ : sgntz = -1) (_ : sgntx = 1) (_ : sgnty = 1) (_ : i1 = (i - sgnvz)) (_ : j1 = (j - sgnvx)) (_ : k1 = (k - sgnvy)) :
    (0 ≤ i ∧ i < nz) ∧ (0 ≤ j ∧ j < nx) ∧ (0 ≤ k ∧ k < ny) ∧ (0 ≤ 2 ∧ 2 < 3) := ⟨Idx.down, Idx.up, Idx.up, by decide⟩

theorem fteik3d_sweep_L170c12_ctx5 (i i1 j j1 k k1 nx ny nz sgntx sgnty sgntz sgnvx sgnvy sgnvz : Int) (_ : 2 ≤ nz) (_ : 2 ≤ nx) (_ : 2 ≤ ny) (_ : 1 ≤ k) (_ : k < ny) (_ : j ≤ (nx - 2)) (_ : (-1) < j) (_ : i ≤ (nz - 2)) (_ : (-1) < i) (_ : sgnvz = 0) (_ : sgnvx = 0) (_ : sgnvy = 1) (_ : sgntz = -1) (_ : sgntx = -1) (_ : sgnty = 1) (_ : i1 = (i - sgnvz)) (_ : j1 = (j - sgnvx)) (_ : k1 = (k - sgnvy)) :
    (0 ≤ i ∧ i < nz) ∧ (0 ≤ j ∧ j < nx) ∧ (0 ≤ k ∧ k < ny) ∧ (0 ≤ 2 ∧ 2 < 3) := ⟨Idx.down, Idx.down, Idx.up, by decide⟩

theorem fteik3d_sweep_L170c12_ctx6 (i i1 j j1 k k1 nx ny nz sgntx sgnty sgntz sgnvx sgnvy sgnvz : Int) (_ : 2 ≤ nz) (_ : 2 ≤ nx) (_ : 2 ≤ ny) (_ : k ≤ (ny - 2)) (_ : (-1) < k) (_ : 1 ≤ j) (_ : j < nx) (_ : i ≤ (nz - 2)) (_ : (-1) < i) (_ : sgnvz = 0) (_ : sgnvx = 1) (_ : sgnvy = 0) (_ : sgntz = -1) (_ : sgntx = 1) (_ : sgnty = -1) (_ : i1 = (i - sgnvz)) (_ : j1 = (j - sgnvx)) (_ : k1 = (k - sgnvy)) :
    (0 ≤ i ∧ i < nz) ∧ (0 ≤ j ∧ j < nx) ∧ (0 ≤ k ∧ k < ny) ∧ (0 ≤ 2 ∧ 2 < 3) := ⟨Idx.down, Idx.up, Idx.down, by decide⟩

theorem fteik3d_sweep_L170c12_ctx7 (i i1 j j1 k k1 nx ny nz sgntx sgnty sgntz sgnvx sgnvy sgnvz : Int) (_ : 2 ≤ nz) (_ : 2 ≤ nx) (_ : 2 ≤ ny) (_ : k ≤ (ny - 2)) (_ : (-1) < k) (_ : j ≤ (nx - 2)) (_ : (-1) < j) (_ : i ≤ (nz - 2)) (_ : (-1) < i) (_ : sgnvz = 0) (_ : sgnvx = 0) (_ : sgnvy = 0) (_ : sgntz = -1) (_ : sgntx = -1) (_ : sgnty = -1) (_ : i1 = (i - sgnvz)) (_ : j1 = (j - sgnvx)) (_ : k1 = (k - sgnvy)) :
    (0 ≤ i ∧ i < nz) ∧ (0 ≤ j ∧ j < nx) ∧ (0 ≤ k ∧ k < ny) ∧ (0 ≤ 2 ∧ 2 < 3) := ⟨Idx.down, Idx.down, Idx.down, by decide⟩

theorem fteik3d_sweep_L172c13_ctx0 (i i1 j j1 k k1 nx ny nz sgntx sgnty sgntz sgnvx sgnvy sgnvz : Int) (_ : 2 ≤ nz) (_ : 2 ≤ nx) (_ : 2 ≤ ny) (_ : 1 ≤ k) (_ : k < ny) (_ : 1 ≤ j) (_ : j < nx) (_ : 1 ≤ i) (_ : i < nz) (_ : sgnvz = 1) (_ : sgnvx = 1) (_ : sgnvy = 1) (_ : sgntz = 1) (_ : sgntx = 1) (_ : sgnty = 1) (_ : i1 = (i - sgnvz)) (_ : j1 = (j - sgnvx)) (_ : k1 = (k - sgnvy)) :
    (0 ≤ i ∧ i < nz) ∧ (0 ≤ j ∧ j < nx) ∧ (0 ≤ k ∧ k < ny) := ⟨Idx.up, Idx.up, Idx.up⟩

theorem fteik3d_sweep_L172c13_ctx1 (i i1 j j1 k k1 nx ny nz sgntx sgnty sgntz sgnvx sgnvy sgnvz : Int) (_ : 2 ≤ nz) (_ : 2 ≤ nx) (_ : 2 ≤ ny) (_ : 1 ≤ k) (_ : k < ny) (_ : j ≤ (nx - 2)) (_ : (-1) < j) (_ : 1 ≤ i) (_ : i < nz) (_ : sgnvz = 1) (_ : sgnvx = 0) (_ : sgnvy = 1) (_ : sgntz = 1) (_ : sgntx = -1) (_ : sgnty = 1) (_ : i1 = (i - sgnvz)) (_ : j1 = (j - sgnvx)) (_ : k1 = (k - sgnvy)) :
    (0 ≤ i ∧ i < nz) ∧ (0 ≤ j ∧ j < nx) ∧ (0 ≤ k ∧ k < ny) := ⟨Idx.up, Idx.down, Idx.up⟩

theorem fteik3d_sweep_L172c13_ctx2 (i i1 j j1 k k1 nx ny nz sgntx sgnty sgntz sgnvx sgnvy sgnvz : Int) (_ : 2 ≤ nz) (_ : 2 ≤ nx) (_ : 2 ≤ ny) (_ : k ≤ (ny - 2)) (_ : (-1) < k) (_ : 1 ≤ j) (_ : j < nx) (_ : 1 ≤ i) (_ : i < nz) (_ : sgnvz = 1) (_ : sgnvx = 1) (_ : sgnvy = 0) (_ : sgntz = 1) (_ : sgntx = 1) (_ : sgnty = -1) (_ : i1 = (i - sgnvz)) (_ : j1 = (j - sgnvx)) (_ : k1 = (k - sgnvy)) :
    (0 ≤ i ∧ i < nz) ∧ (0 ≤ j ∧ j < nx) ∧ (0 ≤ k ∧ k < ny) := ⟨Idx.up, Idx.up, Idx.down⟩

theorem fteik3d_sweep_L172c13_ctx3 (i i1 j j1 k k1 nx ny nz sgntx sgnty sgntz sgnvx sgnvy sgnvz : Int) (_ : 2 ≤ nz) (_ : 2 ≤ nx) (_ : 2 ≤ ny) (_ : k ≤ (ny - 2)) (_ : (-1) < k) (_ : j ≤ (nx - 2)) (_ : (-1) < j) (_ : 1 ≤ i) (_ : i < nz) (_ : sgnvz = 1) (_ : sgnvx = 0) (_ : sgnvy = 0) (_ : sgntz = 1) (_ : sgntx = -1) (_ : sgnty = -1) (_ : i1 = (i - sgnvz)) (_ : j1 = (j - sgnvx)) (_ : k1 = (k - sgnvy)) :
    (0 ≤ i ∧ i < nz) ∧ (0 ≤ j ∧ j < nx) ∧ (0 ≤ k ∧ k < ny) := ⟨Idx.up, Idx.down, Idx.down⟩

theorem fteik3d_sweep_L172c13_ctx4 (i i1 j j1 k k1 nx ny nz sgntx sgnty sgntz sgnvx sgnvy sgnvz : Int) (_ : 2 ≤ nz) (_ : 2 ≤ nx) (_ : 2 ≤ ny) (_ : 1 ≤ k) (_ : k < ny) (_ : 1 ≤ j) (_ : j < nx) (_ : i ≤ (nz - 2)) (_ : (-1) < i) (_ : sgnvz = 0) (_ : sgnvx = 1) (_ : sgnvy = 1) (_ : sgntz = -1) (_ : sgntx = 1) (_ : sgnty = 1) (_ : i1 = (i - sgnvz)) (_ : j1 = (j - sgnvx)) (_ : k1 = (k - sgnvy)) :
    (0 ≤ i ∧ i < nz) ∧ (0 ≤ j ∧ j < nx) ∧ (0 ≤ k ∧ k < ny) := ⟨Idx.down, Idx.up, Idx.up⟩

theorem fteik3d_sweep_L172c13_ctx5 (i i1 j j1 k k1 nx ny nz sgntx sgnty sgntz sgnvx sgnvy sgnvz : Int) (_ : 2 ≤ nz) (_ : 2 ≤ nx) (_ : 2 ≤ ny) (_ : 1 ≤ k) (_ : k < ny) (_ : j ≤ (nx - 2)) (_ : (-1) < j) (_ : i ≤ (nz - 2)) (_ : (-1) < i) (_ : sgnvz = 0) (_ : sgnvx = 0) (_ : sgnvy = 1) (_ : sgntz = -1) (_ : sgntx = -1) (_ : sgnty = 1) (_ : i1 = (i - sgnvz)) (_ : j1 = (j - sgnvx)) (_ : k1 = (k - sgnvy)) :
    (0 ≤ i ∧ i < nz) ∧ (0 ≤ j ∧ j < nx) ∧ (0 ≤ k ∧ k < ny) := ⟨Idx.down, Idx.down, Idx.up⟩

theorem fteik3d_sweep_L172c13_ctx6 (i i1 j j1 k k1 nx ny nz sgntx sgnty sgntz sgnvx sgnvy sgnvz : Int) (_ : 2 ≤ nz) (_ : 2 ≤ nx) (_ : 2 ≤ ny) (_ : k ≤ (ny - 2)) (_ : (-1) < k) (_ : 1 ≤ j) (_ : j < nx) (_ : i ≤ (nz - 2)) (_ : (-1) < i) (_ : sgnvz = 0) (_ : sgnvx = 1) (_ : sgnvy = 0) (_ : sgntz = -1) (_ : sgntx = 1) (_ : sgnty = -1) (_ : i1 = (i - sgnvz)) (_ : j1 = (j - sgnvx)) (_ : k1 = (k - sgnvy)) :
    (0 ≤ i ∧ i < nz) ∧ (0 ≤ j ∧ j < nx) ∧ (0 ≤ k ∧ k < ny) := ⟨Idx.down, Idx.up, Idx.down⟩

theorem fteik3d_sweep_L172c13_ctx7 (i i1 j j1 k k1 nx ny nz sgntx sgnty sgntz sgnvx sgnvy sgnvz : Int) (_ : 2 ≤ nz) (_ : 2 ≤ nx) (_ : 2 ≤ ny) (_ : k ≤ (ny - 2)) (_ : (-1) < k) (_ : j ≤ (nx - 2)) (_ : (-1) < j) (_ : i ≤ (nz - 2)) (_ : (-1) < i) (_ : sgnvz = 0) (_ : sgnvx = 0) (_ : sgnvy = 0) (_ : sgntz = -1) (_ : sgntx = -1) (_ : sgnty = -1) (_ : i1 = (i - sgnvz)) (_ : j1 = (j - sgnvx)) (_ : k1 = (k - sgnvy)) :
    (0 ≤ i ∧ i < nz) ∧ (0 ≤ j ∧ j < nx) ∧ (0 ≤ k ∧ k < ny) := ⟨Idx.down, Idx.down, Idx.down⟩

theorem fteik3d_sweep_L173c12_ctx0 (i i1 j j1 k k1 nx ny nz sgntx sgnty sgntz sgnvx sgnvy sgnvz : Int) (_ : 2 ≤ nz) (_ : 2 ≤ nx) (_ : 2 ≤ ny) (_ : 1 ≤ k) (_ : k < ny) (_ : 1 ≤ j) (_ : j < nx) (_ : 1 ≤ i) (_ : i < nz) (_ : sgnvz = 1) (_ : sgnvx = 1) (_ : sgnvy = 1) (_ : sgntz = 1) (_ : sgntx = 1) (_ : sgnty = 1) (_ : i1 = (i - sgnvz)) (_ : j1 = (j - sgnvx)) (_ : k1 = (k - sgnvy)) :
    (0 ≤ i ∧ i < nz) ∧ (0 ≤ j ∧ j < nx) ∧ (0 ≤ k ∧ k < ny) ∧ (0 ≤ 0 ∧ 0 < 3) := ⟨Idx.up, Idx.up, Idx.up, by decide⟩

theorem fteik3d_sweep_L173c12_ctx1 (i i1 j j1 k k1 nx ny nz sgntx sgnty sgntz sgnvx sgnvy sgnvz : Int) (_ : 2 ≤ nz) (_ : 2 ≤ nx) (_ : 2 ≤ ny) (_ : 1 ≤ k) (_ : k < ny) (_ : j ≤ (nx - 2)) (_ : (-1) < j) (_ : 1 ≤ i) (_ : i < nz) (_ : sgnvz = 1) (_ : sgnvx = 0) (_ : sgnvy = 1) (_ : sgntz = 1) (_ : sgntx = -1) (_ : sgnty = 1) (_ : i1 = (i - sgnvz)) (_ : j1 = (j - sgnvx)) (_ : k1 = (k - sgnvy)) :
    (0 ≤ i ∧ i < nz) ∧ (0 ≤ j ∧ j < nx) ∧ (0 ≤ k ∧ k < ny) ∧ (0 ≤ 0 ∧ 0 < 3) := ⟨Idx.up, Idx.down, Idx.up, by decide⟩

theorem fteik3d_sweep_L173c12_ctx2 (i i1 j j1 k k1 nx ny nz sgntx sgnty sgntz sgnvx sgnvy sgnvz : Int) (_ : 2 ≤ nz) (_ : 2 ≤ nx) (_ : 2 ≤ ny) (_ : k ≤ (ny - 2)) (_ : (-1) < k) (_ : 1 ≤ j) (_ : j < nx) (_ : 1 ≤ i) (_ : i < nz) (_ : sgnvz = 1) (_ : sgnvx = 1) (_ : sgnvy = 0) (_ : sgntz = 1) (_ : sgntx = 1) (_ : sgnty = -1) (_ : i1 = (i - sgnvz)) (_ : j1 = (j - sgnvx)) (_ : k1 = (k - sgnvy)) :
    (0 ≤ i ∧ i < nz) ∧ (0 ≤ j ∧ j < nx) ∧ (0 ≤ k ∧ k < ny) ∧ (0 ≤ 0 ∧ 0 < 3) := ⟨Idx.up, Idx.up, Idx.down, by decide⟩

theorem fteik3d_sweep_L173c12_ctx3 (i i1 j j1 k k1 nx ny nz sgntx sgnty sgntz sgnvx sgnvy sgnvz : Int) (_ : 2 ≤ nz) (_ : 2 ≤ nx) (_ : 2 ≤ ny) (_ : k ≤ (ny - 2)) (_ : (-1) < k) (_ : j ≤ (nx - 2)) (_ : (-1) < j) (_ : 1 ≤ i) (_ : i < nz) (_ : sgnvz = 1) (_ : sgnvx = 0) (_ : sgnvy = 0) (_ : sgntz = 1) (_ : sgntx = -1) (_ : sgnty = -1) (_ : i1 = (i - sgnvz)) (_ : j1 = (j - sgnvx)) (_ : k1 = (k - sgnvy)) :
    (0 ≤ i ∧ i < nz) ∧ (0 ≤ j ∧ j < nx) ∧ (0 ≤ k ∧ k < ny) ∧ (0 ≤ 0 ∧ 0 < 3) := ⟨Idx.up, Idx.down, Idx.down, by decide⟩

theorem fteik3d_sweep_L173c12_ctx4 (i i1 j j1 k k1 nx ny nz sgntx sgnty sgntz sgnvx sgnvy sgnvz : Int) (_ : 2 ≤ nz) (_ : 2 ≤ nx) (_ : 2 ≤ ny) (_ : 1 ≤ k) (_ : k < ny) (_ : 1 ≤ j) (_ : j < nx) (_ : i ≤ (nz - 2)) (_ : (-1) < i) (_ : sgnvz = 0) (_ : sgnvx = 1) (_ : sgnvy = 1) (_ : sgntz = -1) (_ : sgntx = 1) (_ : sgnty = 1) (_ : i1 = (i - sgnvz)) (_ : j1 = (j - sgnvx)) (_ : k1 = (k - sgnvy)) :
    (0 ≤ i ∧ i < nz) ∧ (0 ≤ j ∧ j < nx) ∧ (0 ≤ k ∧ k < ny) ∧ (0 ≤ 0 ∧ 0 < 3) := ⟨Idx.down, Idx.up, Idx.up, by decide⟩

theorem fteik3d_sweep_L173c12_ctx5 (i i1 j j1 k k1 nx ny nz sgntx sgnty sgntz sgnvx sgnvy sgnvz : Int) (_ : 2 ≤ nz) (_ : 2 ≤ nx) (_ : 2 ≤ ny) (_ : 1 ≤ k) (_ : k < ny) (_ : j ≤ (nx - 2)) (_ : (-1) < j) (_ : i ≤ (nz - 2)) (_ : (-1) < i) (_ : sgnvz = 0) (_ : sgnvx = 0) (_ : sgnvy = 1) (_ : sgntz = -1) (_ : sgntx = -1) (_ : sgnty = 1) (_ : i1 = (i - sgnvz)) (_ : j1 = (j - sgnvx)) (_ : k1 = (k - sgnvy)) :
    (0 ≤ i ∧ i < nz) ∧ (0 ≤ j ∧ j < nx) ∧ (0 ≤ k ∧ k < ny) ∧ (0 ≤ 0 ∧ 0 < 3) := ⟨Idx.down, Idx.down, Idx.up, by decide⟩

theorem fteik3d_sweep_L173c12_ctx6 (i i1 j j1 k k1 nx ny nz sgntx sgnty sgntz sgnvx sgnvy sgnvz : Int) (_ : 2 ≤ nz) (_ : 2 ≤ nx) (_ : 2 ≤ ny) (_ : k ≤ (ny - 2)) (_ : (-1) < k) (_ : 1 ≤ j) (_ : j < nx) (_ : i ≤ (nz - 2)) (_ : (-1) < i) (_ : sgnvz = 0) (_ : sgnvx = 1) (_ : sgnvy = 0) (_ : sgntz = -1) (_ : sgntx = 1) (_ : sgnty = -1) (_ : i1 = (i - sgnvz)) (_ : j1 = (j - sgnvx)) (_ : k1 = (k - sgnvy)) :
    (0 ≤ i ∧ i < nz) ∧ (0 ≤ j ∧ j < nx) ∧ (0 ≤ k ∧ k < ny) ∧ (0 ≤ 0 ∧ 0 < 3) := ⟨Idx.down, Idx.up, Idx.down, by decide⟩

theorem fteik3d_sweep_L173c12_ctx7 (i i1 j j1 k k1 nx ny nz sgntx sgnty sgntz sgnvx sgnvy sgnvz : Int) (_ : 2 ≤ nz) (_ : 2 ≤ nx) (_ : 2 ≤ ny) (_ : k ≤ (ny - 2)) (_ : (-1) < k) (_ : j ≤ (nx - 2)) (_ : (-1) < j) (_ : i ≤ (nz - 2)) (_ : (-1) < i) (_ : sgnvz = 0) (_ : sgnvx = 0) (_ : sgnvy = 0) (_ : sgntz = -1) (_ : sgntx = -1) (_ : sgnty = -1) (_ : i1 = (i - sgnvz)) (_ : j1 = (j - sgnvx)) (_ : k1 = (k - sgnvy)) :
    (0 ≤ i ∧ i < nz) ∧ (0 ≤ j ∧ j < nx) ∧ (0 ≤ k ∧ k < ny) ∧ (0 ≤ 0 ∧ 0 < 3) := ⟨Idx.down, Idx.down, Idx.down, by decide⟩

theorem fteik3d_sweep_L174c12_ctx0 (i i1 j j1 k k1 nx ny nz sgntx sgnty sgntz sgnvx sgnvy sgnvz : Int) (_ : 2 ≤ nz) (_ : 2 ≤ nx) (_ : 2 ≤ ny) (_ : 1 ≤ k) (_ : k < ny) (_ : 1 ≤ j) (_ : j < nx) (_ : 1 ≤ i) (_ : i < nz) (_ : sgnvz = 1) (_ : sgnvx = 1) (_ : sgnvy = 1) (_ : sgntz = 1) (_ : sgntx = 1) (_ : sgnty = 1) (_ : i1 = (i - sgnvz)) (_ : j1 = (j - sgnvx)) (_ : k1 = (k - sgnvy)) :
    (0 ≤ i ∧ i < nz) ∧ (0 ≤ j ∧ j < nx) ∧ (0 ≤ k ∧ k < ny) ∧ (0 ≤ 1 ∧ 1 < 3) := ⟨Idx.up, Idx.up, Idx.up, by decide⟩

theorem fteik3d_sweep_L174c12_ctx1 (i i1 j j1 k k1 nx ny nz sgntx sgnty sgntz sgnvx sgnvy sgnvz : Int) (_ : 2 ≤ nz) (_ : 2 ≤ nx) (_ : 2 ≤ ny) (_ : 1 ≤ k) (_ : k < ny) (_ : j ≤ (nx - 2)) (_ : (-1) < j) (_ : 1 ≤ i) (_ : i < nz) (_ : sgnvz = 1) (_ : sgnvx = 0) (_ : sgnvy = 1) (_ : sgntz = 1) (_ : sgntx = -1) (_ : sgnty = 1) (_ : i1 = (i - sgnvz)) (_ : j1 = (j - sgnvx)) (_ : k1 = (k - sgnvy)) :
    (0 ≤ i ∧ i < nz) ∧ (0 ≤ j ∧ j < nx) ∧ (0 ≤ k ∧ k < ny) ∧ (0 ≤ 1 ∧ 1 < 3) := ⟨Idx.up, Idx.down, Idx.up, by decide⟩

theorem fteik3d_sweep_L174c12_ctx2 (i i1 j j1 k k1 nx ny nz sgntx sgnty sgntz sgnvx sgnvy sgnvz : Int) (_ : 2 ≤ nz) (_ : 2 ≤ nx) (_ : 2 ≤ ny) (_ : k ≤ (ny - 2)) (_ : (-1) < k) (_ : 1 ≤ j) (_ : j < nx) (_ : 1 ≤ i) (_ : i < nz) (_ : sgnvz = 1) (_ : sgnvx = 1) (_ : sgnvy = 0) (_ : sgntz = 1) (_ : sgntx = 1) (_ : sgnty = -1) (_ : i1 = (i - sgnvz)) (_ : j1 = (j - sgnvx)) (_ : k1 = (k - sgnvy)) :
    (0 ≤ i ∧ i < nz) ∧ (0 ≤ j ∧ j < nx) ∧ (0 ≤ k ∧ k < ny) ∧ (0 ≤ 1 ∧ 1 < 3) := ⟨Idx.up, Idx.up, Idx.down, by decide⟩

theorem fteik3d_sweep_L174c12_ctx3 (i i1 j j1 k k1 nx ny nz sgntx sgnty sgntz sgnvx sgnvy sgnvz : Int) (_ : 2 ≤ nz) (_ : 2 ≤ nx) (_ : 2 ≤ ny) (_ : k ≤ (ny - 2)) (_ : (-1) < k) (_ : j ≤ (nx - 2)) (_ : (-1) < j) (_ : 1 ≤ i) (_ : i < nz) (_ : sgnvz = 1) (_ : sgnvx = 0) (_ : sgnvy = 0) (_ : sgntz = 1) (_ : sgntx = -1) (_ : sgnty = -1) (_ : i1 = (i - sgnvz)) (_ : j1 = (j - sgnvx)) (_ : k1 = (k - sgnvy)) :
    (0 ≤ i ∧ i < nz) ∧ (0 ≤ j ∧ j < nx) ∧ (0 ≤ k ∧ k < ny) ∧ (0 ≤ 1 ∧ 1 < 3) := ⟨Idx.up, Idx.down, Idx.down, by decide⟩

theorem fteik3d_sweep_L174c12_ctx4 (i i1 j j1 k k1 nx ny nz sgntx sgnty sgntz sgnvx sgnvy sgnvz : Int) (_ : 2 ≤ nz) (_ : 2 ≤ nx) (_ : 2 ≤ ny) (_ : 1 ≤ k) (_ : k < ny) (_ : 1 ≤ j) (_ : j < nx) (_ : i ≤ (nz - 2)) (_ : (-1) < i) (_ : sgnvz = 0) (_ : sgnvx = 1) (_ : sgnvy = 1) (_ : sgntz = -1) (_ : sgntx = 1) (_ : sgnty = 1) (_ : i1 = (i - sgnvz)) (_ : j1 = (j - sgnvx)) (_ : k1 = (k - sgnvy)) :
    (0 ≤ i ∧ i < nz) ∧ (0 ≤ j ∧ j < nx) ∧ (0 ≤ k ∧ k < ny) ∧ (0 ≤ 1 ∧ 1 < 3) := ⟨Idx.down, Idx.up, Idx.up, by decide⟩

theorem fteik3d_sweep_L174c12_ctx5 (i i1 j j1 k k1 nx ny nz sgntx sgnty sgntz sgnvx sgnvy sgnvz : Int) (_ : 2 ≤ nz) (_ : 2 ≤ nx) (_ : 2 ≤ ny) (_ : 1 ≤ k) (_ : k < ny) (_ : j ≤ (nx - 2)) (_ : (-1) < j) (_ : i ≤ (nz - 2)) (_ : (-1) < i) (_ : sgnvz = 0) (_ : sgnvx = 0) (_ : sgnvy = 1) (_ : sgntz = -1) (_ : sgntx = -1) (_ : sgnty = 1) (_ : i1 = (i - sgnvz)) (_ : j1 = (j - sgnvx)) (_ : k1 = (k - sgnvy)) :
    (0 ≤ i ∧ i < nz) ∧ (0 ≤ j ∧ j < nx) ∧ (0 ≤ k ∧ k < ny) ∧ (0 ≤ 1 ∧ 1 < 3) := ⟨Idx.down, Idx.down, Idx.up, by decide⟩

theorem fteik3d_sweep_L174c12_ctx6 (i i1 j j1 k k1 nx ny nz sgntx sgnty sgntz sgnvx sgnvy sgnvz : Int) (_ : 2 ≤ nz) (_ : 2 ≤ nx) (_ : 2 ≤ ny) (_ : k ≤ (ny - 2)) (_ : (-1) < k) (_ : 1 ≤ j) (_ : j < nx) (_ : i ≤ (nz - 2)) (_ : (-1) < i) (_ : sgnvz = 0) (_ : sgnvx = 1) (_ : sgnvy = 0) (_ : sgntz = -1) (_ : sgntx = 1) (_ : sgnty = -1) (_ : i1 = (i - sgnvz)) (_ : j1 = (j - sgnvx)) (_ : k1 = (k - sgnvy)) :
    (0 ≤ i ∧ i < nz) ∧ (0 ≤ j ∧ j < nx) ∧ (0 ≤ k ∧ k < ny) ∧ (0 ≤ 1 ∧ 1 < 3) := ⟨Idx.down, Idx.up, Idx.down, by decide⟩

theorem fteik3d_sweep_L174c12_ctx7 (i i1 j j1 k k1 nx ny nz sgntx sgnty sgntz sgnvx sgnvy sgnvz : Int) (_ : 2 ≤ nz) (_ : 2 ≤ nx) (_ : 2 ≤ ny) (_ : k ≤ (ny - 2)) (_ : (-1) < k) (_ : j ≤ (nx - 2)) (_ : (-1) < j) (_ : i ≤ (nz - 2)) (_ : (-1) < i) (_ : sgnvz = 0) (_ : sgnvx = 0) (_ : sgnvy = 0) (_ : sgntz = -1) (_ : sgntx = -1) (_ : sgnty = -1) (_ : i1 = (i - sgnvz)) (_ : j1 = (j - sgnvx)) (_ : k1 = (k - sgnvy)) :
    (0 ≤ i ∧ i < nz) ∧ (0 ≤ j ∧ j < nx) ∧ (0 ≤ k ∧ k < ny) ∧ (0 ≤ 1 ∧ 1 < 3) := ⟨Idx.down, Idx.down, Idx.down, by decide⟩

theorem fteik3d_sweep_L175c12_ctx0 (i i1 j j1 k k1 nx ny nz sgntx sgnty sgntz sgnvx sgnvy sgnvz : Int) (_ : 2 ≤ nz) (_ : 2 ≤ nx) (_ : 2 ≤ ny) (_ : 1 ≤ k) (_ : k < ny) (_ : 1 ≤ j) (_ : j < nx) (_ : 1 ≤ i) (_ : i < nz) (_ : sgnvz = 1) (_ : sgnvx = 1) (_ : sgnvy = 1) (_ : sgntz = 1) (_ : sgntx = 1) (_ : sgnty = 1) (_ : i1 = (i - sgnvz)) (_ : j1 = (j - sgnvx)) (_ : k1 = (k - sgnvy)) :
    (0 ≤ i ∧ i < nz) ∧ (0 ≤ j ∧ j < nx) ∧ (0 ≤ k ∧ k < ny) ∧ (0 ≤ 2 ∧ 2 < 3) := ⟨Idx.up, Idx.up, Idx.up, by decide⟩

theorem fteik3d_sweep_L175c12_ctx1 (i i1 j j1 k k1 nx ny nz sgntx sgnty sgntz sgnvx sgnvy sgnvz : Int) (_ : 2 ≤ nz) (_ : 2 ≤ nx) (_ : 2 ≤ ny) (_ : 1 ≤ k) (_ : k < ny) (_ : j ≤ (nx - 2)) (_ : (-1) < j) (_ : 1 ≤ i) (_ : i < nz) (_ : sgnvz = 1) (_ : sgnvx = 0) (_ : sgnvy = 1) (_ : sgntz = 1) (_ : sgntx = -1) (_ : sgnty = 1) (_ : i1 = (i - sgnvz)) (_ : j1 = (j - sgnvx)) (_ : k1 = (k - sgnvy)) :
    (0 ≤ i ∧ i < nz) ∧ (0 ≤ j ∧ j < nx) ∧ (0 ≤ k ∧ k < ny) ∧ (0 ≤ 2 ∧ 2 < 3) := ⟨Idx.up, Idx.down, Idx.up, by decide⟩

theorem fteik3d_sweep_L175c12_ctx2 (i i1 j j1 k k1 nx ny nz sgntx sgnty sgntz sgnvx sgnvy sgnvz : Int) (_ : 2 ≤ nz) (_ : 2 ≤ nx) (_ : 2 ≤ ny) (_ : k ≤ (ny - 2)) (_ : (-1) < k) (_ : 1 ≤ j) (_ : j < nx) (_ : 1 ≤ i) (_ : i < nz) (_ : sgnvz = 1) (_ : sgnvx = 1) (_ : sgnvy = 0) (_ : sgntz = 1) (_ : sgntx = 1) (_ : sgnty = -1) (_ : i1 = (i - sgnvz)) (_ : j1 = (j - sgnvx)) (_ : k1 = (k - sgnvy)) :
    (0 ≤ i ∧ i < nz) ∧ (0 ≤ j ∧ j < nx) ∧ (0 ≤ k ∧ k < ny) ∧ (0 ≤ 2 ∧ 2 < 3) := ⟨Idx.up, Idx.up, Idx.down, by decide⟩

theorem fteik3d_sweep_L175c12_ctx3 (i i1 j j1 k k1 nx ny nz sgntx sgnty sgntz sgnvx sgnvy sgnvz : Int) (_ : 2 ≤ nz) (_ : 2 ≤ nx) (_ : 2 ≤ ny) (_ : k ≤ (ny - 2)) (_ : (-1) < k) (_ : j ≤ (nx - 2)) (_ : (-1) < j) (_ : 1 ≤ i) (_ : i < nz) (_ : sgnvz = 1) (_ : sgnvx = 0) (_ : sgnvy = 0) (_ : sgntz = 1) (_ : sgntx = -1) (_ : sgnty = -1) (_ : i1 = (i - sgnvz)) (_ : j1 = (j - sgnvx)) (_ : k1 = (k - sgnvy)) :
    (0 ≤ i ∧ i < nz) ∧ (0 ≤ j ∧ j < nx) ∧ (0 ≤ k ∧ k < ny) ∧ (0 ≤ 2 ∧ 2 < 3) := ⟨Idx.up, Idx.down, Idx.down, by decide⟩

theorem fteik3d_sweep_L175c12_ctx4 (i i1 j j1 k k1 nx ny nz sgntx sgnty sgntz sgnvx sgnvy sgnvz : Int) (_ : 2 ≤ nz) (_ : 2 ≤ nx) (_ : 2 ≤ ny) (_ : 1 ≤ k) (_ : k < ny) (_ : 1 ≤ j) (_ : j < nx) (_ : i ≤ (nz - 2)) (_ : (-1) < i) (_ : sgnvz = 0) (_ : sgnvx = 1) (_ : sgnvy = 1) (_ : sgntz = -1) (_ : sgntx = 1) (_ : sgnty = 1) (_ : i1 = (i - sgnvz)) (_ : j1 = (j - sgnvx)) (_ : k1 = (k - sgnvy)) :
    (0 ≤ i ∧ i < nz) ∧ (0 ≤ j ∧ j < nx) ∧ (0 ≤ k ∧ k < ny) ∧ (0 ≤ 2 ∧ 2 < 3) := ⟨Idx.down, Idx.up, Idx.up, by decide⟩

theorem fteik3d_sweep_L175c12_ctx5 (i i1 j j1 k k1 nx ny nz sgntx sgnty sgntz sgnvx sgnvy sgnvz : Int) (_ : 2 ≤ nz) (_ : 2 ≤ nx) (_ : 2 ≤ ny) (_ : 1 ≤ k) (_ : k < ny) (_ : j ≤ (nx - 2)) (_ : (-1) < j) (_ : i ≤ (nz - 2)) (_ : (-1) < i) (_ : sgnvz = 0) (_ : sgnvx = 0) (_ : sgnvy = 1) (_ : sgntz = -1) (_ : sgntx = -1) (_ : sgnty = 1) (_ : i1 = (i - sgnvz)) (_ : j1 = (j - sgnvx)) (_ : k1 = (k - sgnvy)) :
    (0 ≤ i ∧ i < nz) ∧ (0 ≤ j ∧ j < nx) ∧ (0 ≤ k ∧ k < ny) ∧ (0 ≤ 2 ∧ 2 < 3) := ⟨Idx.down, Idx.down, Idx.up, by decide⟩

theorem fteik3d_sweep_L175c12_ctx6 (i i1 j j1 k k1 nx ny nz sgntx sgnty sgntz sgnvx sgnvy sgnvz : Int) (_ : 2 ≤ nz) (_ : 2 ≤ nx) (_ : 2 ≤ ny) (_ : k ≤ (ny - 2)) (_ : (-1) < k) (_ : 1 ≤ j) (_ : j < nx) (_ : i ≤ (nz - 2)) (_ : (-1) < i) (_ : sgnvz = 0) (_ : sgnvx = 1) (_ : sgnvy = 0) (_ : sgntz = -1) (_ : sgntx = 1) (_ : sgnty = -1) (_ : i1 = (i - sgnvz)) (_ : j1 = (j - sgnvx)) (_ : k1 = (k - sgnvy)) :
    (0 ≤ i ∧ i < nz) ∧ (0 ≤ j ∧ j < nx) ∧ (0 ≤ k ∧ k < ny) ∧ (0 ≤ 2 ∧ 2 < 3) := ⟨Idx.down, Idx.up, Idx.down, by decide⟩

theorem fteik3d_sweep_L175c12_ctx7 (i i1 j j1 k k1 nx ny nz sgntx sgnty sgntz sgnvx sgnvy sgnvz : Int) (_ : 2 ≤ nz) (_ : 2 ≤ nx) (_ : 2 ≤ ny) (_ : k ≤ (ny - 2)) (_ : (-1) < k) (_ : j ≤ (nx - 2)) (_ : (-1) < j) (_ : i ≤ (nz - 2)) (_ : (-1) < i) (_ : sgnvz = 0) (_ : sgnvx = 0) (_ : sgnvy = 0) (_ : sgntz = -1) (_ : sgntx = -1) (_ : sgnty = -1) (_ : i1 = (i - sgnvz)) (_ : j1 = (j - sgnvx)) (_ : k1 = (k - sgnvy)) :
    (0 ≤ i ∧ i < nz) ∧ (0 ≤ j ∧ j < nx) ∧ (0 ≤ k ∧ k < ny) ∧ (0 ≤ 2 ∧ 2 < 3) := ⟨Idx.down, Idx.down, Idx.down, by decide⟩

theorem fteik3d_sweep_L177c13_ctx0 (i i1 j j1 k k1 nx ny nz sgntx sgnty sgntz sgnvx sgnvy sgnvz : Int) (_ : 2 ≤ nz) (_ : 2 ≤ nx) (_ : 2 ≤ ny) (_ : 1 ≤ k) (_ : k < ny) (_ : 1 ≤ j) (_ : j < nx) (_ : 1 ≤ i) (_ : i < nz) (_ : sgnvz = 1) (_ : sgnvx = 1) (_ : sgnvy = 1) (_ : sgntz = 1) (_ : sgntx = 1) (_ : sgnty = 1) (_ : i1 = (i - sgnvz)) (_ : j1 = (j - sgnvx)) (_ : k1 = (k - sgnvy)) :
    (0 ≤ i ∧ i < nz) ∧ (0 ≤ j ∧ j < nx) ∧ (0 ≤ k ∧ k < ny) := ⟨Idx.up, Idx.up, Idx.up⟩

theorem fteik3d_sweep_L177c13_ctx1 (i i1 j j1 k k1 nx ny nz sgntx sgnty sgntz sgnvx sgnvy sgnvz : Int) (_ : 2 ≤ nz) (_ : 2 ≤ nx) (_ : 2 ≤ ny) (_ : 1 ≤ k) (_ : k < ny) (_ : j ≤ (nx - 2)) (_ : (-1) < j) (_ : 1 ≤ i) (_ : i < nz) (_ : sgnvz = 1) (_ : sgnvx = 0) (_ : sgnvy = 1) (_ : sgntz = 1) (_ : sgntx = -1) (_ : sgnty = 1) (_ : i1 = (i - sgnvz)) (_ : j1 = (j - sgnvx)) (_ : k1 = (k - sgnvy)) :
    (0 ≤ i ∧ i < nz) ∧ (0 ≤ j ∧ j < nx) ∧ (0 ≤ k ∧ k < ny) := ⟨Idx.up, Idx.down, Idx.up⟩

theorem fteik3d_sweep_L177c13_ctx2 (i i1 j j1 k k1 nx ny nz sgntx sgnty sgntz sgnvx sgnvy sgnvz : Int) (_ : 2 ≤ nz) (_ : 2 ≤ nx) (_ : 2 ≤ ny) (_ : k ≤ (ny - 2)) (_ : (-1) < k) (_ : 1 ≤ j) (_ : j < nx) (_ : 1 ≤ i) (_ : i < nz) (_ : sgnvz = 1) (_ : sgnvx = 1) (_ : sgnvy = 0) (_ : sgntz = 1) (_ : sgntx = 1) (_ : sgnty = -1) (_ : i1 = (i - sgnvz)) (_ : j1 = (j - sgnvx)) (_ : k1 = (k - sgnvy)) :
    (0 ≤ i ∧ i < nz) ∧ (0 ≤ j ∧ j < nx) ∧ (0 ≤ k ∧ k < ny) := ⟨Idx.up, Idx.up, Idx.down⟩

theorem fteik3d_sweep_L177c13_ctx3 (i i1 j j1 k k1 nx ny nz sgntx sgnty sgntz sgnvx sgnvy sgnvz : Int) (_ : 2 ≤ nz) (_ : 2 ≤ nx) (_ : 2 ≤ ny) (_ : k ≤ (ny - 2)) (_ : (-1) < k) (_ : j ≤ (nx - 2)) (_ : (-1) < j) (_ : 1 ≤ i) (_ : i < nz) (_ : sgnvz = 1) (_ : sgnvx = 0) (_ : sgnvy = 0) (_ : sgntz = 1) (_ : sgntx = -1) (_ : sgnty = -1) (_ : i1 = (i - sgnvz)) (_ : j1 = (j - sgnvx)) (_ : k1 = (k - sgnvy)) :
    (0 ≤ i ∧ i < nz) ∧ (0 ≤ j ∧ j < nx) ∧ (0 ≤ k ∧ k < ny) := ⟨Idx.up, Idx.down, Idx.down⟩

theorem fteik3d_sweep_L177c13_ctx4 (i i1 j j1 k k1 nx ny nz sgntx sgnty sgntz sgnvx sgnvy sgnvz : Int) (_ : 2 ≤ nz) (_ : 2 ≤ nx) (_ : 2 ≤ ny) (_ : 1 ≤ k) (_ : k < ny) (_ : 1 ≤ j) (_ : j < nx) (_ : i ≤ (nz - 2)) (_ : (-1) < i) (_ : sgnvz = 0) (_ : sgnvx = 1) (_ : sgnvy = 1) (_ : sgntz = -1) (_ : sgntx = 1) (_ : sgnty = 1) (_ : i1 = (i - sgnvz)) (_ : j1 = (j - sgnvx)) (_ : k1 = (k - sgnvy)) :
    (0 ≤ i ∧ i < nz) ∧ (0 ≤ j ∧ j < nx) ∧ (0 ≤ k ∧ k < ny) := ⟨Idx.down, Idx.up, Idx.up⟩

theorem fteik3d_sweep_L177c13_ctx5 (i i1 j j1 k k1 nx ny nz sgntx sgnty sgntz sgnvx sgnvy sgnvz : Int) (_ : 2 ≤ nz) (_ : 2 ≤ nx) (_ : 2 ≤ ny) (_ : 1 ≤ k) (_ : k < ny) (_ : j ≤ (nx - 2)) (_ : (-1) < j) (_ : i ≤ (nz - 2)) (_ : (-1) < i) (_ : sgnvz = 0) (_ : sgnvx = 0) (_ : sgnvy = 1) (_ : sgntz = -1) (_ : sgntx = -1) (_ : sgnty = 1) (_ : i1 = (i - sgnvz)) (_ : j1 = (j - sgnvx)) (_ : k1 = (k - sgnvy)) :
    (0 ≤ i ∧ i < nz) ∧ (0 ≤ j ∧ j < nx) ∧ (0 ≤ k ∧ k < ny) := ⟨Idx.down, Idx.down, Idx.up⟩

theorem fteik3d_sweep_L177c13_ctx6 (i i1 j j1 k k1 nx ny nz sgntx sgnty sgntz sgnvx sgnvy sgnvz : Int) (_ : 2 ≤ nz) (_ : 2 ≤ nx) (_ : 2 ≤ ny) (_ : k ≤ (ny - 2)) (_ : (-1) < k) (_ : 1 ≤ j) (_ : j < nx) (_ : i ≤ (nz - 2)) (_ : (-1) < i) (_ : sgnvz = 0) (_ : sgnvx = 1) (_ : sgnvy = 0) (_ : sgntz = -1) (_ : sgntx = 1) (_ : sgnty = -1) (_ : i1 = (i - sgnvz)) (_ : j1 = (j - sgnvx)) (_ : k1 = (k - sgnvy)) :
    (0 ≤ i ∧ i < nz) ∧ (0 ≤ j ∧ j < nx) ∧ (0 ≤ k ∧ k < ny) := ⟨Idx.down, Idx.up, Idx.down⟩

theorem fteik3d_sweep_L177c13_ctx7 (i i1 j j1 k k1 nx ny nz sgntx sgnty sgntz sgnvx sgnvy sgnvz : Int) (_ : 2 ≤ nz) (_ : 2 ≤ nx) (_ : 2 ≤ ny) (_ : k ≤ (ny - 2)) (_ : (-1) < k) (_ : j ≤ (nx - 2)) (_ : (-1) < j) (_ : i ≤ (nz - 2)) (_ : (-1) < i) (_ : sgnvz = 0) (_ : sgnvx = 0) (_ : sgnvy = 0) (_ : sgntz = -1) (_ : sgntx = -1) (_ : sgnty = -1) (_ : i1 = (i - sgnvz)) (_ : j1 = (j - sgnvx)) (_ : k1 = (k - sgnvy)) :
    (0 ≤ i ∧ i < nz) ∧ (0 ≤ j ∧ j < nx) ∧ (0 ≤ k ∧ k < ny) := ⟨Idx.down, Idx.down, Idx.down⟩

theorem fteik3d_sweep_L178c12_ctx0 (i i1 j j1 k k1 nx ny nz sgntx sgnty sgntz sgnvx sgnvy sgnvz : Int) (_ : 2 ≤ nz) (_ : 2 ≤ nx) (_ : 2 ≤ ny) (_ : 1 ≤ k) (_ : k < ny) (_ : 1 ≤ j) (_ : j < nx) (_ : 1 ≤ i) (_ : i < nz) (_ : sgnvz = 1) (_ : sgnvx = 1) (_ : sgnvy = 1) (_ : sgntz = 1) (_ : sgntx = 1) (_ : sgnty = 1) (_ : i1 = (i - sgnvz)) (_ : j1 = (j - sgnvx)) (_ : k1 = (k - sgnvy)) :
    (0 ≤ i ∧ i < nz) ∧ (0 ≤ j ∧ j < nx) ∧ (0 ≤ k ∧ k < ny) ∧ (0 ≤ 0 ∧ 0 < 3) := ⟨Idx.up, Idx.up, Idx.up, by decide⟩

theorem fteik3d_sweep_L178c12_ctx1 (i i1 j j1 k k1 nx ny nz sgntx sgnty sgntz sgnvx sgnvy sgnvz : Int) (_ : 2 ≤ nz) (_ : 2 ≤ nx) (_ : 2 ≤ ny) (_ : 1 ≤ k) (_ : k < ny) (_ : j ≤ (nx - 2)) (_ : (-1) < j) (_ : 1 ≤ i) (_ : i < nz) (_ : sgnvz = 1) (_ : sgnvx = 0) (_ : sgnvy = 1) (_ : sgntz = 1) (_ : sgntx = -1) (_ : sgnty = 1) (_ : i1 = (i - sgnvz)) (_ : j1 = (j - sgnvx)) (_ : k1 = (k - sgnvy)) :
    (0 ≤ i ∧ i < nz) ∧ (0 ≤ j ∧ j < nx) ∧ (0 ≤ k ∧ k < ny) ∧ (0 ≤ 0 ∧ 0 < 3) := ⟨Idx.up, Idx.down, Idx.up, by decide⟩

theorem fteik3d_sweep_L178c12_ctx2 (i i1 j j1 k k1 nx ny nz sgntx sgnty sgntz sgnvx sgnvy sgnvz : Int) (_ : 2 ≤ nz) (_ : 2 ≤ nx) (_ : 2 ≤ ny) (_ : k ≤ (ny - 2)) (_ : (-1) < k) (_ : 1 ≤ j) (_ : j < nx) (_ : 1 ≤ i) (_ : i < nz) (_ : sgnvz = 1) (_ : sgnvx = 1) (_ : sgnvy = 0) (_ : sgntz = 1) (_ : sgntx = 1) (_ : sgnty = -1) (_ : i1 = (i - sgnvz)) (_ : j1 = (j - sgnvx)) (_ : k1 = (k - sgnvy)) :
    (0 ≤ i ∧ i < nz) ∧ (0 ≤ j ∧ j < nx) ∧ (0 ≤ k ∧ k < ny) ∧ (0 ≤ 0 ∧ 0 < 3) := ⟨Idx.up, Idx.up, Idx.down, by decide⟩

theorem fteik3d_sweep_L178c12_ctx3 (i i1 j j1 k k1 nx ny nz sgntx sgnty sgntz sgnvx sgnvy sgnvz : Int) (_ : 2 ≤ nz) (_ : 2 ≤ nx) (_ : 2 ≤ ny) (_ : k ≤ (ny - 2)) (_ : (-1) < k) (_ : j ≤ (nx - 2)) (_ : (-1) < j) (_ : 1 ≤ i) (_ : i < nz) (_ : sgnvz = 1) (_ : sgnvx = 0) (_ : sgnvy = 0) (_ : sgntz = 1) (_ : sgntx = -1) (_ : sgnty = -1) (_ : i1 = (i - sgnvz)) (_ : j1 = (j - sgnvx)) (_ : k1 = (k - sgnvy)) :
    (0 ≤ i ∧ i < nz) ∧ (0 ≤ j ∧ j < nx) ∧ (0 ≤ k ∧ k < ny) ∧ (0 ≤ 0 ∧ 0 < 3) := ⟨Idx.up, Idx.down, Idx.down, by decide⟩

theorem fteik3d_sweep_L178c12_ctx4 (i i1 j j1 k k1 nx ny nz sgntx sgnty sgntz sgnvx sgnvy sgnvz : Int) (_ : 2 ≤ nz) (_ : 2 ≤ nx) (_ : 2 ≤ ny) (_ : 1 ≤ k) (_ : k < ny) (_ : 1 ≤ j) (_ : j < nx) (_ : i ≤ (nz - 2)) (_ : (-1) < i) (_ : sgnvz = 0) (_ : sgnvx = 1) (_ : sgnvy = 1) (_ : sgntz = -1) (_ : sgntx = 1) (_ : sgnty = 1) (_ : i1 = (i - sgnvz)) (_ : j1 = (j - sgnvx)) (_ : k1 = (k - sgnvy)) :
    (0 ≤ i ∧ i < nz) ∧ (0 ≤ j ∧ j < nx) ∧ (0 ≤ k ∧ k < ny) ∧ (0 ≤ 0 ∧ 0 < 3) := ⟨Idx.down, Idx.up, Idx.up, by decide⟩

theorem fteik3d_sweep_L178c12_ctx5 (i i1 j j1 k k1 nx ny nz sgntx sgnty sgntz sgnvx sgnvy sgnvz : Int) (_ : 2 ≤ nz) (_ : 2 ≤ nx) (_ : 2 ≤ ny) (_ : 1 ≤ k) (_ : k < ny) (_ : j ≤ (nx - 2)) (_ : (-1) < j) (_ : i ≤ (nz - 2)) (_ : (-1) < i) (_ : sgnvz = 0) (_ : sgnvx = 0) (_ : sgnvy = 1) (_ : sgntz = -1) (_ : sgntx = -1) (_ : sgnty = 1) (_ : i1 = (i - sgnvz)) (_ : j1 = (j - sgnvx)) (_ : k1 = (k - sgnvy)) :
    (0 ≤ i ∧ i < nz) ∧ (0 ≤ j ∧ j < nx) ∧ (0 ≤ k ∧ k < ny) ∧ (0 ≤ 0 ∧ 0 < 3) := ⟨Idx.down, Idx.down, Idx.up, by decide⟩

theorem fteik3d_sweep_L178c12_ctx6 (i i1 j j1 k k1 nx ny nz sgntx sgnty sgntz sgnvx sgnvy sgnvz : Int) (_ : 2 ≤ nz) (_ : 2 ≤ nx) (_ : 2 ≤ ny) (_ : k ≤ (ny - 2)) (_ : (-1) < k) (_ : 1 ≤ j) (_ : j < nx) (_ : i ≤ (nz - 2)) (_ : (-1) < i) (_ : sgnvz = 0) (_ : sgnvx = 1) (_ : sgnvy = 0) (_ : sgntz = -1) (_ : sgntx = 1) (_ : sgnty = -1) (_ : i1 = (i - sgnvz)) (_ : j1 = (j - sgnvx)) (_ : k1 = (k - sgnvy)) :
    (0 ≤ i ∧ i < nz) ∧ (0 ≤ j ∧ j < nx) ∧ (0 ≤ k ∧ k < ny) ∧ (0 ≤ 0 ∧ 0 < 3) := ⟨Idx.down, Idx.up, Idx.down, by decide⟩

theorem fteik3d_sweep_L178c12_ctx7 (i i1 j j1 k k1 nx ny nz sgntx sgnty sgntz sgnvx sgnvy sgnvz : Int) (_ : 2 ≤ nz) (_ : 2 ≤ nx) (_ : 2 ≤ ny) (_ : k ≤ (ny - 2)) (_ : (-1) < k) (_ : j ≤ (nx - 2)) (_ : (-1) < j) (_ : i ≤ (nz - 2)) (_ : (-1) < i) (_ : sgnvz = 0) (_ : sgnvx = 0) (_ : sgnvy = 0) (_ : sgntz = -1) (_ : sgntx = -1) (_ : sgnty = -1) (_ : i1 = (i - sgnvz)) (_ : j1 = (j - sgnvx)) (_ : k1 = (k - sgnvy)) :
    (0 ≤ i ∧ i < nz) ∧ (0 ≤ j ∧ j < nx) ∧ (0 ≤ k ∧ k < ny) ∧ (0 ≤ 0 ∧ 0 < 3) := ⟨Idx.down, Idx.down, Idx.down, by decide⟩

theorem fteik3d_sweep_L179c12_ctx0 (i i1 j j1 k k1 nx ny nz sgntx sgnty sgntz sgnvx sgnvy sgnvz : Int) (_ : 2 ≤ nz) (_ : 2 ≤ nx) (_ : 2 ≤ ny) (_ : 1 ≤ k) (_ : k < ny) (_ : 1 ≤ j) (_ : j < nx) (_ : 1 ≤ i) (_ : i < nz) (_ : sgnvz = 1) (_ : sgnvx = 1) (_ : sgnvy = 1) (_ : sgntz = 1) (_ : sgntx = 1) (_ : sgnty = 1) (_ : i1 = (i - sgnvz)) (_ : j1 = (j - sgnvx)) (_ : k1 = (k - sgnvy)) :
    (0 ≤ i ∧ i < nz) ∧ (0 ≤ j ∧ j < nx) ∧ (0 ≤ k ∧ k < ny) ∧ (0 ≤ 1 ∧ 1 < 3) := ⟨Idx.up, Idx.up, Idx.up, by decide⟩

theorem fteik3d_sweep_L179c12_ctx1 (i i1 j j1 k k1 nx ny nz sgntx sgnty sgntz sgnvx sgnvy sgnvz : Int) (_ : 2 ≤ nz) (_ : 2 ≤ nx) (_ : 2 ≤ ny) (_ : 1 ≤ k) (_ : k < ny) (_ : j ≤ (nx - 2)) (_ : (-1) < j) (_ : 1 ≤ i) (_ : i < nz) (_ : sgnvz = 1) (_ : sgnvx = 0) (_ : sgnvy = 1) (_ : sgntz = 1) (_ : sgntx = -1) (_ : sgnty = 1) (_ : i1 = (i - sgnvz)) (_ : j1 = (j - sgnvx)) (_ : k1 = (k - sgnvy)) :
    (0 ≤ i ∧ i < nz) ∧ (0 ≤ j ∧ j < nx) ∧ (0 ≤ k ∧ k < ny) ∧ (0 ≤ 1 ∧ 1 < 3) := ⟨Idx.up, Idx.down, Idx.up, by decide⟩

theorem fteik3d_sweep_L179c12_ctx2 (i i1 j j1 k k1 nx ny nz sgntx sgnty sgntz sgnvx sgnvy sgnvz : Int) (_ : 2 ≤ nz) (_ : 2 ≤ nx) (_ : 2 ≤ ny) (_ : k ≤ (ny - 2)) (_ : (-1) < k) (_ : 1 ≤ j) (_ : j < nx) (_ : 1 ≤ i) (_ : i < nz) (_ : sgnvz = 1) (_ : sgnvx = 1) (_ : sgnvy = 0) (_ : sgntz = 1) (_ : sgntx = 1) (_ : sgnty = -1) (_ : i1 = (i - sgnvz)) (_ : j1 = (j - sgnvx)) (_ : k1 = (k - sgnvy)) :
    (0 ≤ i ∧ i < nz) ∧ (0 ≤ j ∧ j < nx) ∧ (0 ≤ k ∧ k < ny) ∧ (0 ≤ 1 ∧ 1 < 3) := ⟨Idx.up, Idx.up, Idx.down, by decide⟩

theorem fteik3d_sweep_L179c12_ctx3 (i i1 j j1 k k1 nx ny nz sgntx sgnty sgntz sgnvx sgnvy sgnvz : Int) (_ : 2 ≤ nz) (_ : 2 ≤ nx) (_ : 2 ≤ ny) (_ : k ≤ (ny - 2)) (_ : (-1) < k) (_ : j ≤ (nx - 2)) (_ : (-1) < j) (_ : 1 ≤ i) (_ : i < nz) (_ : sgnvz = 1) (_ : sgnvx = 0) (_ : sgnvy = 0) (_ : sgntz = 1) (_ : sgntx = -1) (_ : sgnty = -1) (_ : i1 = (i - sgnvz)) (_ : j1 = (j - sgnvx)) (_ : k1 = (k - sgnvy)) :
    (0 ≤ i ∧ i < nz) ∧ (0 ≤ j ∧ j < nx) ∧ (0 ≤ k ∧ k < ny) ∧ (0 ≤ 1 ∧ 1 < 3) := ⟨Idx.up, Idx.down, Idx.down, by decide⟩

theorem fteik3d_sweep_L179c12_ctx4 (i i1 j j1 k k1 nx ny nz sgntx sgnty sgntz sgnvx sgnvy sgnvz : Int) (_ : 2 ≤ nz) (_ : 2 ≤ nx) (_ : 2 ≤ ny) (_ : 1 ≤ k) (_ : k < ny) (_ : 1 ≤ j) (_ : j < nx) (_ : i ≤ (nz - 2)) (_ : (-1) < i) (_ : sgnvz = 0) (_ : sgnvx = 1) (_ : sgnvy = 1) (_ : sgntz = -1) (_ : sgntx = 1) (_ : sgnty = 1) (_ : i1 = (i - sgnvz)) (_ : j1 = (j - sgnvx)) (_ : k1 = (k - sgnvy)) :
    (0 ≤ i ∧ i < nz) ∧ (0 ≤ j ∧ j < nx) ∧ (0 ≤ k ∧ k < ny) ∧ (0 ≤ 1 ∧ 1 < 3) := ⟨Idx.down, Idx.up, Idx.up, by decide⟩

theorem fteik3d_sweep_L179c12_ctx5 (i i1 j j1 k k1 nx ny nz sgntx sgnty sgntz sgnvx sgnvy sgnvz : Int) (_ : 2 ≤ nz) (_ : 2 ≤ nx) (_ : 2 ≤ ny) (_ : 1 ≤ k) (_ : k < ny) (_ : j ≤ (nx - 2)) (_ : (-1) < j) (_ : i ≤ (nz - 2)) (_ : (-1) < i) (_ : sgnvz = 0) (_ : sgnvx = 0) (_ : sgnvy = 1) (_ : sgntz = -1) (_ : sgntx = -1) (_ : sgnty = 1) (_ : i1 = (i - sgnvz)) (_ : j1 = (j - sgnvx)) (_ : k1 = (k - sgnvy)) :
    (0 ≤ i ∧ i < nz) ∧ (0 ≤ j ∧ j < nx) ∧ (0 ≤ k ∧ k < ny) ∧ (0 ≤ 1 ∧ 1 < 3) := ⟨Idx.down, Idx.down, Idx.up, by decide⟩

theorem fteik3d_sweep_L179c12_ctx6 (i i1 j j1 k k1 nx ny nz sgntx sgnty sgntz sgnvx sgnvy sgnvz : Int) (_ : 2 ≤ nz) (_ : 2 ≤ nx) (_ : 2 ≤ ny) (_ : k ≤ (ny - 2)) (_ : (-1) < k) (_ : 1 ≤ j) (_ : j < nx) (_ : i ≤ (nz - 2)) (_ : (-1) < i) (_ : sgnvz = 0) (_ : sgnvx = 1) (_ : sgnvy = 0) (_ : sgntz = -1) (_ : sgntx = 1) (_ : sgnty = -1) (_ : i1 = (i - sgnvz)) (_ : j1 = (j - sgnvx)) (_ : k1 = (k - sgnvy)) :
    (0 ≤ i ∧ i < nz) ∧ (0 ≤ j ∧ j < nx) ∧ (0 ≤ k ∧ k < ny) ∧ (0 ≤ 1 ∧ 1 < 3) := ⟨Idx.down, Idx.up, Idx.down, by decide⟩

theorem fteik3d_sweep_L179c12_ctx7 (i i1 j j1 k k1 nx ny nz sgntx sgnty sgntz sgnvx sgnvy sgnvz : Int) (_ : 2 ≤ nz) (_ : 2 ≤ nx) (_ : 2 ≤ ny) (_ : k ≤ (ny - 2)) (_ : (-1) < k) (_ : j ≤ (nx - 2)) (_ : (-1) < j) (_ : i ≤ (nz - 2)) (_ : (-1) < i) (_ : sgnvz = 0) (_ : sgnvx = 0) (_ : sgnvy = 0) (_ : sgntz = -1) (_ : sgntx = -1) (_ : sgnty = -1) (_ : i1 = (i - sgnvz)) (_ : j1 = (j - sgnvx)) (_ : k1 = (k - sgnvy)) :
    (0 ≤ i ∧ i < nz) ∧ (0 ≤ j ∧ j < nx) ∧ (0 ≤ k ∧ k < ny) ∧ (0 ≤ 1 ∧ 1 < 3) := ⟨Idx.down, Idx.down, Idx.down, by decide⟩

theorem fteik3d_sweep_L180c12_ctx0 (i i1 j j1 k k1 nx ny nz sgntx sgnty sgntz sgnvx sgnvy sgnvz : Int) (_ : 2 ≤ nz) (_ : 2 ≤ nx) (_ : 2 ≤ ny) (_ : 1 ≤ k) (_ : k < ny) (_ : 1 ≤ j) (_ : j < nx) (_ : 1 ≤ i) (_ : i < nz) (_ : sgnvz = 1) (_ : sgnvx = 1) (_ : sgnvy = 1) (_ : sgntz = 1) (_ : sgntx = 1) (_ : sgnty = 1) (_ : i1 = (i - sgnvz)) (_ : j1 = (j - sgnvx)) (_ : k1 = (k - sgnvy)) :
    (0 ≤ i ∧ i < nz) ∧ (0 ≤ j ∧ j < nx) ∧ (0 ≤ k ∧ k < ny) ∧ (0 ≤ 2 ∧ 2 < 3) := ⟨Idx.up, Idx.up, Idx.up, by decide⟩

theorem fteik3d_sweep_L180c12_ctx1 (i i1 j j1 k k1 nx ny nz sgntx sgnty sgntz sgnvx sgnvy sgnvz : Int) (_ : 2 ≤ nz) (_ : 2 ≤ nx) (_ : 2 ≤ ny) (_ : 1 ≤ k) (_ : k < ny) (_ : j ≤ (nx - 2)) (_ : (-1) < j) (_ : 1 ≤ i) (_ : i < nz) (_ : sgnvz = 1) (_ : sgnvx = 0) (_ : sgnvy = 1) (_ : sgntz = 1) (_ : sgntx = -1) (_ : sgnty = 1) (_ : i1 = (i - sgnvz)) (_ : j1 = (j - sgnvx)) (_ : k1 = (k - sgnvy)) :
    (0 ≤ i ∧ i < nz) ∧ (0 ≤ j ∧ j < nx) ∧ (0 ≤ k ∧ k < ny) ∧ (0 ≤ 2 ∧ 2 < 3) := ⟨Idx.up, Idx.down, Idx.up, by decide⟩

theorem fteik3d_sweep_L180c12_ctx2 (i i1 j j1 k k1 nx ny nz sgntx sgnty sgntz sgnvx sgnvy sgnvz : Int) (_ : 2 ≤ nz) (_ : 2 ≤ nx) (_ : 2 ≤ ny) (_ : k ≤ (ny - 2)) (_ : (-1) < k) (_ : 1 ≤ j) (_ : j < nx) (_ : 1 ≤ i) (_ : i < nz) (_ : sgnvz = 1) (_ : sgnvx = 1) (_ : sgnvy = 0) (_ : sgntz = 1) (_ : sgntx = 1) (_ : sgnty = -1) (_ : i1 = (i - sgnvz)) (_ : j1 = (j - sgnvx)) (_ : k1 = (k - sgnvy)) :
    (0 ≤ i ∧ i < nz) ∧ (0 ≤ j ∧ j < nx) ∧ (0 ≤ k ∧ k < ny) ∧ (0 ≤ 2 ∧ 2 < 3) := ⟨Idx.up, Idx.up, Idx.down, by decide⟩

theorem fteik3d_sweep_L180c12_ctx3 (i i1 j j1 k k1 nx ny nz sgntx sgnty sgntz sgnvx sgnvy sgnvz : Int) (_ : 2 ≤ nz) (_ : 2 ≤ nx) (_ : 2 ≤ ny) (_ : k ≤ (ny - 2)) (_ : (-1) < k) (_ : j ≤ (nx - 2)) (_ : (-1) < j) (_ : 1 ≤ i) (_ : i < nz) (_ : sgnvz = 1) (_ : sgnvx = 0) (_ : sgnvy = 0) (_ : sgntz = 1) (_ : sgntx = -1) (_ : sgnty = -1) (_ : i1 = (i - sgnvz)) (_ : j1 = (j - sgnvx)) (_ : k1 = (k - sgnvy)) :
    (0 ≤ i ∧ i < nz) ∧ (0 ≤ j ∧ j < nx) ∧ (0 ≤ k ∧ k < ny) ∧ (0 ≤ 2 ∧ 2 < 3) := ⟨Idx.up, Idx.down, Idx.down, by decide⟩

theorem fteik3d_sweep_L180c12_ctx4 (i i1 j j1 k k1 nx ny nz sgntx sgnty sgntz sgnvx sgnvy sgnvz : Int) (_ : 2 ≤ nz) (_ : 2 ≤ nx) (_ : 2 ≤ ny) (_ : 1 ≤ k) (_ : k < ny) (_ : 1 ≤ j) (_ : j < nx) (_ : i ≤ (nz - 2)) (_ : (-1) < i) (_ : sgnvz = 0) (_ : sgnvx = 1) (_ : sgnvy = 1) (_ : sgntz = -1) (_ : sgntx = 1) (_ : sgnty = 1) (_ : i1 = (i - sgnvz)) (_ : j1 = (j - sgnvx)) (_ : k1 = (k - sgnvy)) :
    (0 ≤ i ∧ i < nz) ∧ (0 ≤ j ∧ j < nx) ∧ (0 ≤ k ∧ k < ny) ∧ (0 ≤ 2 ∧ 2 < 3) := ⟨Idx.down, Idx.up, Idx.up, by decide⟩

theorem fteik3d_sweep_L180c12_ctx5 (i i1 j j1 k k1 nx ny nz sgntx sgnty sgntz sgnvx sgnvy sgnvz : Int) (_ : 2 ≤ nz) (_ : 2 ≤ nx) (_ : 2 ≤ ny) (_ : 1 ≤ k) (_ : k < ny) (_ : j ≤ (nx - 2)) (_ : (-1) < j) (_ : i ≤ (nz - 2)) (_ : (-1) < i) (_ : sgnvz = 0) (_ : sgnvx = 0) (_ : sgnvy = 1) (_ : sgntz = -1) (_ : sgntx = -1) (_ : sgnty = 1) (_ : i1 = (i - sgnvz)) (_ : j1 = (j - sgnvx)) (_ : k1 = (k - sgnvy)) :
    (0 ≤ i ∧ i < nz) ∧ (0 ≤ j ∧ j < nx) ∧ (0 ≤ k ∧ k < ny) ∧ (0 ≤ 2 ∧ 2 < 3) := ⟨Idx.down, Idx.down, Idx.up, by decide⟩

theorem fteik3d_sweep_L180c12_ctx6 (i i1 j j1 k k1 nx ny nz sgntx sgnty sgntz sgnvx sgnvy sgnvz : Int) (_ : 2 ≤ nz) (_ : 2 ≤ nx) (_ : 2 ≤ ny) (_ : k ≤ (ny - 2)) (_ : (-1) < k) (_ : 1 ≤ j) (_ : j < nx) (_ : i ≤ (nz - 2)) (_ : (-1) < i) (_ : sgnvz = 0) (_ : sgnvx = 1) (_ : sgnvy = 0) (_ : sgntz = -1) (_ : sgntx = 1) (_ : sgnty = -1) (_ : i1 = (i - sgnvz)) (_ : j1 = (j - sgnvx)) (_ : k1 = (k - sgnvy)) :
    (0 ≤ i ∧ i < nz) ∧ (0 ≤ j ∧ j < nx) ∧ (0 ≤ k ∧ k < ny) ∧ (0 ≤ 2 ∧ 2 < 3) := ⟨Idx.down, Idx.up, Idx.down, by decide⟩

theorem fteik3d_sweep_L180c12_ctx7 (i i1 j j1 k k1 nx ny nz sgntx sgnty sgntz sgnvx sgnvy sgnvz : Int) (_ : 2 ≤ nz) (_ : 2 ≤ nx) (_ : 2 ≤ ny) (_ : k ≤ (ny - 2)) (_ : (-1) < k) (_ : j ≤ (nx - 2)) (_ : (-1) < j) (_ : i ≤ (nz - 2)) (_ : (-1) < i) (_ : sgnvz = 0) (_ : sgnvx = 0) (_ : sgnvy = 0) (_ : sgntz = -1) (_ : sgntx = -1) (_ : sgnty = -1) (_ : i1 = (i - sgnvz)) (_ : j1 = (j - sgnvx)) (_ : k1 = (k - sgnvy)) :
    (0 ≤ i ∧ i < nz) ∧ (0 ≤ j ∧ j < nx) ∧ (0 ≤ k ∧ k < ny) ∧ (0 ≤ 2 ∧ 2 < 3) := ⟨Idx.down, Idx.down, Idx.down, by decide⟩

theorem fteik3d_sweep_L182c13_ctx0 (i i1 j j1 k k1 nx ny nz sgntx sgnty sgntz sgnvx sgnvy sgnvz : Int) (_ : 2 ≤ nz) (_ : 2 ≤ nx) (_ : 2 ≤ ny) (_ : 1 ≤ k) (_ : k < ny) (_ : 1 ≤ j) (_ : j < nx) (_ : 1 ≤ i) (_ : i < nz) (_ : sgnvz = 1) (_ : sgnvx = 1) (_ : sgnvy = 1) (_ : sgntz = 1) (_ : sgntx = 1) (_ : sgnty = 1) (_ : i1 = (i - sgnvz)) (_ : j1 = (j - sgnvx)) (_ : k1 = (k - sgnvy)) :
    (0 ≤ i ∧ i < nz) ∧ (0 ≤ j ∧ j < nx) ∧ (0 ≤ k ∧ k < ny) := ⟨Idx.up, Idx.up, Idx.up⟩

theorem fteik3d_sweep_L182c13_ctx1 (i i1 j j1 k k1 nx ny nz sgntx sgnty sgntz sgnvx sgnvy sgnvz : Int) (_ : 2 ≤ nz) (_ : 2 ≤ nx) (_ : 2 ≤ ny) (_ : 1 ≤ k) (_ : k < ny) (_ : j ≤ (nx - 2)) (_ : (-1) < j) (_ : 1 ≤ i) (_ : i < nz) (_ : sgnvz = 1) (_ : sgnvx = 0) (_ : sgnvy = 1) (_ : sgntz = 1) (_ : sgntx = -1) (_ : sgnty = 1) (_ : i1 = (i - sgnvz)) (_ : j1 = (j - sgnvx)) (_ : k1 = (k - sgnvy)) :
    (0 ≤ i ∧ i < nz) ∧ (0 ≤ j ∧ j < nx) ∧ (0 ≤ k ∧ k < ny) := ⟨Idx.up, Idx.down, Idx.up⟩

theorem fteik3d_sweep_L182c13_ctx2 (i i1 j j1 k k1 nx ny nz sgntx sgnty sgntz sgnvx sgnvy sgnvz : Int) (_ : 2 ≤ nz) (_ : 2 ≤ nx) (_ : 2 ≤ ny) (_ : k ≤ (ny - 2)) (_ : (-1) < k) (_ : 1 ≤ j) (_ : j < nx) (_ : 1 ≤ i) (_ : i < nz) (_ : sgnvz = 1) (_ : sgnvx = 1) (_ : sgnvy = 0) (_ : sgntz = 1) (_ : sgntx = 1) (_ : sgnty = -1) (_ : i1 = (i - sgnvz)) (_ : j1 = (j - sgnvx)) (_ : k1 = (k - sgnvy)) :
    (0 ≤ i ∧ i < nz) ∧ (0 ≤ j ∧ j < nx) ∧ (0 ≤ k ∧ k < ny) := ⟨Idx.up, Idx.up, Idx.down⟩

theorem fteik3d_sweep_L182c13_ctx3 (i i1 j j1 k k1 nx ny nz sgntx sgnty sgntz sgnvx sgnvy sgnvz : Int) (_ : 2 ≤ nz) (_ : 2 ≤ nx) (_ : 2 ≤ ny) (_ : k ≤ (ny - 2)) (_ : (-1) < k) (_ : j ≤ (nx - 2)) (_ : (-1) < j) (_ : 1 ≤ i) (_ : i < nz) (_ : sgnvz = 1) (_ : sgnvx = 0) (_ : sgnvy = 0) (_ : sgntz = 1) (_ : sgntx = -1) (_ : sgnty = -1) (_ : i1 = (i - sgnvz)) (_ : j1 = (j - sgnvx)) (_ : k1 = (k - sgnvy)) :
    (0 ≤ i ∧ i < nz) ∧ (0 ≤ j ∧ j < nx) ∧ (0 ≤ k ∧ k < ny) := ⟨Idx.up, Idx.down, Idx.down⟩

theorem fteik3d_sweep_L182c13_ctx4 (i i1 j j1 k k1 nx ny nz sgntx sgnty sgntz sgnvx sgnvy sgnvz : Int) (_ : 2 ≤ nz) (_ : 2 ≤ nx) (_ : 2 ≤ ny) (_ : 1 ≤ k) (_ : k < ny) (_ : 1 ≤ j) (_ : j < nx) (_ : i ≤ (nz - 2)) (_ : (-1) < i) (_ : sgnvz = 0) (_ : sgnvx = 1) (_ : sgnvy = 1) (_ : sgntz = -1) (_ : sgntx = 1) (_ : sgnty = 1) (_ : i1 = (i - sgnvz)) (_ : j1 = (j - sgnvx)) (_ : k1 = (k - sgnvy)) :
    (0 ≤ i ∧ i < nz) ∧ (0 ≤ j ∧ j < nx) ∧ (0 ≤ k ∧ k < ny) := ⟨Idx.down, Idx.up, Idx.up⟩

theorem fteik3d_sweep_L182c13_ctx5 (i i1 j j1 k k1 nx ny nz sgntx sgnty sgntz sgnvx sgnvy sgnvz : Int) (_ : 2 ≤ nz) (_ : 2 ≤ nx) (_ : 2 ≤ ny) (_ : 1 ≤ k) (_ : k < ny) (_ : j ≤ (nx - 2)) (_ : (-1) < j) (_ : i ≤ (nz - 2)) (_ : (-1) < i) (_ : sgnvz = 0) (_ : sgnvx = 0) (_ : sgnvy = 1) (_ : sgntz = -1) (_ : sgntx = -1) (_ : sgnty = 1) (_ : i1 = (i - sgnvz)) (_ : j1 = (j - sgnvx)) (_ : k1 = (k - sgnvy)) :
    (0 ≤ i ∧ i < nz) ∧ (0 ≤ j ∧ j < nx) ∧ (0 ≤ k ∧ k < ny) := ⟨Idx.down, Idx.down, Idx.up⟩

theorem fteik3d_sweep_L182c13_ctx6 (i i1 j j1 k k1 nx ny nz sgntx sgnty sgntz sgnvx sgnvy sgnvz : Int) (_ : 2 ≤ nz) (_ : 2 ≤ nx) (_ : 2 ≤ ny) (_ : k ≤ (ny - 2)) (_ : (-1) < k) (_ : 1 ≤ j) (_ : j < nx) (_ : i ≤ (nz - 2)) (_ : (-1) < i) (_ : sgnvz = 0) (_ : sgnvx = 1) (_ : sgnvy = 0) (_ : sgntz = -1) (_ : sgntx = 1) (_ : sgnty = -1) (_ : i1 = (i - sgnvz)) (_ : j1 = (j - sgnvx)) (_ : k1 = (k - sgnvy)) :
    (0 ≤ i ∧ i < nz) ∧ (0 ≤ j ∧ j < nx) ∧ (0 ≤ k ∧ k < ny) := ⟨Idx.down, Idx.up, Idx.down⟩

theorem fteik3d_sweep_L182c13_ctx7 (i i1 j j1 k k1 nx ny nz sgntx sgnty sgntz sgnvx sgnvy sgnvz : Int) (_ : 2 ≤ nz) (_ : 2 ≤ nx) (_ : 2 ≤ ny) (_ : k ≤ (ny - 2)) (_ : (-1) < k) (_ : j ≤ (nx - 2)) (_ : (-1) < j) (_ : i ≤ (nz - 2)) (_ : (-1) < i) (_ : sgnvz = 0) (_ : sgnvx = 0) (_ : sgnvy = 0) (_ : sgntz = -1) (_ : sgntx = -1) (_ : sgnty = -1) (_ : i1 = (i - sgnvz)) (_ : j1 = (j - sgnvx)) (_ : k1 = (k - sgnvy)) :
    (0 ≤ i ∧ i < nz) ∧ (0 ≤ j ∧ j < nx) ∧ (0 ≤ k ∧ k < ny) := ⟨Idx.down, Idx.down, Idx.down⟩

theorem fteik3d_sweep_L183c12_ctx0 (i i1 j j1 k k1 nx ny nz sgntx sgnty sgntz sgnvx sgnvy sgnvz : Int) (_ : 2 ≤ nz) (_ : 2 ≤ nx) (_ : 2 ≤ ny) (_ : 1 ≤ k) (_ : k < ny) (_ : 1 ≤ j) (_ : j < nx) (_ : 1 ≤ i) (_ : i < nz) (_ : sgnvz = 1) (_ : sgnvx = 1) (_ : sgnvy = 1) (_ : sgntz = 1) (_ : sgntx = 1) (_ : sgnty = 1) (_ : i1 = (i - sgnvz)) (_ : j1 = (j - sgnvx)) (_ : k1 = (k - sgnvy)) :
    (0 ≤ i ∧ i < nz) ∧ (0 ≤ j ∧ j < nx) ∧ (0 ≤ k ∧ k < ny) ∧ (0 ≤ 0 ∧ 0 < 3) := ⟨Idx.up, Idx.up, Idx.up, by decide⟩

theorem fteik3d_sweep_L183c12_ctx1 (i i1 j j1 k k1 nx ny nz sgntx sgnty sgntz sgnvx sgnvy sgnvz : Int) (_ : 2 ≤ nz) (_ : 2 ≤ nx) (_ : 2 ≤ ny) (_ : 1 ≤ k) (_ : k < ny) (_ : j ≤ (nx - 2)) (_ : (-1) < j) (_ : 1 ≤ i) (_ : i < nz) (_ : sgnvz = 1) (_ : sgnvx = 0) (_ : sgnvy = 1) (_ : sgntz = 1) (_ : sgntx = -1) (_ : sgnty = 1) (_ : i1 = (i - sgnvz)) (_ : j1 = (j - sgnvx)) (_ : k1 = (k - sgnvy)) :
    (0 ≤ i ∧ i < nz) ∧ (0 ≤ j ∧ j < nx) ∧ (0 ≤ k ∧ k < ny) ∧ (0 ≤ 0 ∧ 0 < 3) := ⟨Idx.up, Idx.down, Idx.up, by decide⟩

theorem fteik3d_sweep_L183c12_ctx2 (i i1 j j1 k k1 nx ny nz sgntx sgnty sgntz sgnvx sgnvy sgnvz : Int) (_ : 2 ≤ nz) (_ : 2 ≤ nx) (_ : 2 ≤ ny) (_ : k ≤ (ny - 2)) (_ : (-1) < k) (_ : 1 ≤ j) (_ : j < nx) (_ : 1 ≤ i) (_ : i < nz) (_ : sgnvz = 1) (_ : sgnvx = 1) (_ : sgnvy = 0) (_ : sgntz = 1) (_ : sgntx = 1) (_ : sgnty = -1) (_ : i1 = (i - sgnvz)) (_ : j1 = (j - sgnvx)) (_ : k1 = (k - sgnvy)) :
    (0 ≤ i ∧ i < nz) ∧ (0 ≤ j ∧ j < nx) ∧ (0 ≤ k ∧ k < ny) ∧ (0 ≤ 0 ∧ 0 < 3) := ⟨Idx.up, Idx.up, Idx.down, by decide⟩

theorem fteik3d_sweep_L183c12_ctx3 (i i1 j j1 k k1 nx ny nz sgntx sgnty sgntz sgnvx sgnvy sgnvz : Int) (_ : 2 ≤ nz) (_ : 2 ≤ nx) (_ : 2 ≤ ny) (_ : k ≤ (ny - 2)) (_ : (-1) < k) (_ : j ≤ (nx - 2)) (_ : (-1) < j) (_ : 1 ≤ i) (_ : i < nz) (_ : sgnvz = 1) (_ : sgnvx = 0) (_ : sgnvy = 0) (_ : sgntz = 1) (_ : sgntx = -1) (_ : sgnty = -1) (_ : i1 = (i - sgnvz)) (_ : j1 = (j - sgnvx)) (_ : k1 = (k - sgnvy)) :
    (0 ≤ i ∧ i < nz) ∧ (0 ≤ j ∧ j < nx) ∧ (0 ≤ k ∧ k < ny) ∧ (0 ≤ 0 ∧ 0 < 3) := ⟨Idx.up, Idx.down, Idx.down, by decide⟩

theorem fteik3d_sweep_L183c12_ctx4 (i i1 j j1 k k1 nx ny nz sgntx sgnty sgntz sgnvx sgnvy sgnvz : Int) (_ : 2 ≤ nz) (_ : 2 ≤ nx) (_ : 2 ≤ ny) (_ : 1 ≤ k) (_ : k < ny) (_ : 1 ≤ j) (_ : j < nx) (_ : i ≤ (nz - 2)) (_ : (-1) < i) (_ : sgnvz = 0) (_ : sgnvx = 1) (_ : sgnvy = 1) (_ : sgntz = -1) (_ : sgntx = 1) (_ : sgnty = 1) (_ : i1 = (i - sgnvz)) (_ : j1 = (j - sgnvx)) (_ : k1 = (k - sgnvy)) :
    (0 ≤ i ∧ i < nz) ∧ (0 ≤ j ∧ j < nx) ∧ (0 ≤ k ∧ k < ny) ∧ (0 ≤ 0 ∧ 0 < 3) := ⟨Idx.down, Idx.up, Idx.up, by decide⟩

theorem fteik3d_sweep_L183c12_ctx5 (i i1 j j1 k k1 nx ny nz sgntx sgnty sgntz sgnvx sgnvy sgnvz : Int) (_ : 2 ≤ nz) (_ : 2 ≤ nx) (_ : 2 ≤ ny) (_ : 1 ≤ k) (_ : k < ny) (_ : j ≤ (nx - 2)) (_ : (-1) < j) (_ : i ≤ (nz - 2)) (_ : (-1) < i) (_ : sgnvz = 0) (_ : sgnvx = 0) (_ : sgnvy = 1) (_ : sgntz = -1) (_ : sgntx = -1) (_ : sgnty = 1) (_ : i1 = (i - sgnvz)) (_ : j1 = (j - sgnvx)) (_ : k1 = (k - sgnvy)) :
    (0 ≤ i ∧ i < nz) ∧ (0 ≤ j ∧ j < nx) ∧ (0 ≤ k ∧ k < ny) ∧ (0 ≤ 0 ∧ 0 < 3) := ⟨Idx.down, Idx.down, Idx.up, by decide⟩

theorem fteik3d_sweep_L183c12_ctx6 (i i1 j j1 k k1 nx ny nz sgntx sgnty sgntz sgnvx sgnvy sgnvz : Int) (_ : 2 ≤ nz) (_ : 2 ≤ nx) (_ : 2 ≤ ny) (_ : k ≤ (ny - 2)) (_ : (-1) < k) (_ : 1 ≤ j) (_ : j < nx) (_ : i ≤ (nz - 2)) (_ : (-1) < i) (_ : sgnvz = 0) (_ : sgnvx = 1) (_ : sgnvy = 0) (_ : sgntz = -1) (_ : sgntx = 1) (_ : sgnty = -1) (_ : i1 = (i - sgnvz)) (_ : j1 = (j - sgnvx)) (_ : k1 = (k - sgnvy)) :
    (0 ≤ i ∧ i < nz) ∧ (0 ≤ j ∧ j < nx) ∧ (0 ≤ k ∧ k < ny) ∧ (0 ≤ 0 ∧ 0 < 3) := ⟨Idx.down, Idx.up, Idx.down, by decide⟩

theorem fteik3d_sweep_L183c12_ctx7 (i i1 j j1 k k1 nx ny nz sgntx sgnty sgntz sgnvx sgnvy sgnvz : Int) (_ : 2 ≤ nz) (_ : 2 ≤ nx) (_ : 2 ≤ ny) (_ : k ≤ (ny - 2)) (_ : (-1) < k) (_ : j ≤ (nx - 2)) (_ : (-1) < j) (_ : i ≤ (nz - 2)) (_ : (-1) < i) (_ : sgnvz = 0) (_ : sgnvx = 0) (_ : sgnvy = 0) (_ : sgntz = -1) (_ : sgntx = -1) (_ : sgnty = -1) (_ : i1 = (i - sgnvz)) (_ : j1 = (j - sgnvx)) (_ : k1 = (k - sgnvy)) :
    (0 ≤ i ∧ i < nz) ∧ (0 ≤ j ∧ j < nx) ∧ (0 ≤ k ∧ k < ny) ∧ (0 ≤ 0 ∧ 0 < 3) := ⟨Idx.down, Idx.down, Idx.down, by decide⟩

theorem fteik3d_sweep_L184c12_ctx0 (i i1 j j1 k k1 nx ny nz sgntx sgnty sgntz sgnvx sgnvy sgnvz : Int) (_ : 2 ≤ nz) (_ : 2 ≤ nx) (_ : 2 ≤ ny) (_ : 1 ≤ k) (_ : k < ny) (_ : 1 ≤ j) (_ : j < nx) (_ : 1 ≤ i) (_ : i < nz) (_ : sgnvz = 1) (_ : sgnvx = 1) (_ : sgnvy = 1) (_ : sgntz = 1) (_ : sgntx = 1) (_ : sgnty = 1) (_ : i1 = (i - sgnvz)) (_ : j1 = (j - sgnvx)) (_ : k1 = (k - sgnvy)) :
    (0 ≤ i ∧ i < nz) ∧ (0 ≤ j ∧ j < nx) ∧ (0 ≤ k ∧ k < ny) ∧ (0 ≤ 1 ∧ 1 < 3) := ⟨Idx.up, Idx.up, Idx.up, by decide⟩

theorem fteik3d_sweep_L184c12_ctx1 (i i1 j j1 k k1 nx ny nz sgntx sgnty sgntz sgnvx sgnvy sgnvz : Int) (_ : 2 ≤ nz) (_ : 2 ≤ nx) (_ : 2 ≤ ny) (_ : 1 ≤ k) (_ : k < ny) (_ : j ≤ (nx - 2)) (_ : (-1) < j) (_ : 1 ≤ i) (_ : i < nz) (_ : sgnvz = 1) (_ : sgnvx = 0) (_ : sgnvy = 1) (_ : sgntz = 1) (_ : sgntx = -1) (_ : sgnty = 1) (_ : i1 = (i - sgnvz)) (_ : j1 = (j - sgnvx)) (_ : k1 = (k - sgnvy)) :
    (0 ≤ i ∧ i < nz) ∧ (0 ≤ j ∧ j < nx) ∧ (0 ≤ k ∧ k < ny) ∧ (0 ≤ 1 ∧ 1 < 3) := ⟨Idx.up, Idx.down, Idx.up, by decide⟩

theorem fteik3d_sweep_L184c12_ctx2 (i i1 j j1 k k1 nx ny nz sgntx sgnty sgntz sgnvx sgnvy sgnvz : Int) (_ : 2 ≤ nz) (_ : 2 ≤ nx) (_ : 2 ≤ ny) (_ : k ≤ (ny - 2)) (_ : (-1) < k) (_ : 1 ≤ j) (_ : j < nx) (_ : 1 ≤ i) (_ : i < nz) (_ : sgnvz = 1) (_ : sgnvx = 1) (_ : sgnvy = 0) (_ : sgntz = 1) (_ : sgntx = 1) (_ : sgnty = -1) (_ : i1 = (i - sgnvz)) (_ : j1 = (j - sgnvx)) (_ : k1 = (k - sgnvy)) :
    (0 ≤ i ∧ i < nz) ∧ (0 ≤ j ∧ j < nx) ∧ (0 ≤ k ∧ k < ny) ∧ (0 ≤ 1 ∧ 1 < 3) := ⟨Idx.up, Idx.up, Idx.down, by decide⟩

theorem fteik3d_sweep_L184c12_ctx3 (i i1 j j1 k k1 nx ny nz sgntx sgnty sgntz sgnvx sgnvy sgnvz : Int) (_ : 2 ≤ nz) (_ : 2 ≤ nx) (_ : 2 ≤ ny) (_ : k ≤ (ny - 2)) (_ : (-1) < k) (_ : j ≤ (nx - 2)) (_ : (-1) < j) (_ : 1 ≤ i) (_ : i < nz) (_ : sgnvz = 1) (_ : sgnvx = 0) (_ : sgnvy = 0) (_ : sgntz = 1) (_ : sgntx = -1) (_ : sgnty = -1) (_ : i1 = (i - sgnvz)) (_ : j1 = (j - sgnvx)) (_ : k1 = (k - sgnvy)) :
    (0 ≤ i ∧ i < nz) ∧ (0 ≤ j ∧ j < nx) ∧ (0 ≤ k ∧ k < ny) ∧ (0 ≤ 1 ∧ 1 < 3) := ⟨Idx.up, Idx.down, Idx.down, by decide⟩

theorem fteik3d_sweep_L184c12_ctx4 (i i1 j j1 k k1 nx ny nz sgntx sgnty sgntz sgnvx sgnvy sgnvz : Int) (_ : 2 ≤ nz) (_ : 2 ≤ nx) (_ : 2 ≤ ny) (_ : 1 ≤ k) (_ : k < ny) (_ : 1 ≤ j) (_ : j < nx) (_ : i ≤ (nz - 2)) (_ : (-1) < i) (_ : sgnvz = 0) (_ : sgnvx = 1) (_ : sgnvy = 1) (_ : sgntz = -1) (_ : sgntx = 1) (_ : sgnty = 1) (_ : i1 = (i - sgnvz)) (_ : j1 = (j - sgnvx)) (_ : k1 = (k - sgnvy)) :
    (0 ≤ i ∧ i < nz) ∧ (0 ≤ j ∧ j < nx) ∧ (0 ≤ k ∧ k < ny) ∧ (0 ≤ 1 ∧ 1 < 3) := ⟨Idx.down, Idx.up, Idx.up, by decide⟩

theorem fteik3d_sweep_L184c12_ctx5 (i i1 j j1 k k1 nx ny nz sgntx sgnty sgntz sgnvx sgnvy sgnvz : Int) (_ : 2 ≤ nz) (_ : 2 ≤ nx) (_ : 2 ≤ ny) (_ : 1 ≤ k) (_ : k < ny) (_ : j ≤ (nx - 2)) (_ : (-1) < j) (_ : i ≤ (nz - 2)) (_ : (-1) < i) (_ : sgnvz = 0) (_ : sgnvx = 0) (_ : sgnvy = 1) (_ : sgntz = -1) (_ : sgntx = -1) (_ : sgnty = 1) (_ : i1 = (i - sgnvz)) (_ : j1 = (j - sgnvx)) (_ : k1 = (k - sgnvy)) :
    (0 ≤ i ∧ i < nz) ∧ (0 ≤ j ∧ j < nx) ∧ (0 ≤ k ∧ k < ny) ∧ (0 ≤ 1 ∧ 1 < 3) := ⟨Idx.down, Idx.down, Idx.up, by decide⟩

theorem fteik3d_sweep_L184c12_ctx6 (i i1 j j1 k k1 nx ny nz sgntx sgnty sgntz sgnvx sgnvy sgnvz : Int) (_ : 2 ≤ nz) (_ : 2 ≤ nx) (_ : 2 ≤ ny) (_ : k ≤ (ny - 2)) (_ : (-1) < k) (_ : 1 ≤ j) (_ : j < nx) (_ : i ≤ (nz - 2)) (_ : (-1) < i) (_ : sgnvz = 0) (_ : sgnvx = 1) (_ : sgnvy = 0) (_ : sgntz = -1) (_ : sgntx = 1) (_ : sgnty = -1) (_ : i1 = (i - sgnvz)) (_ : j1 = (j - sgnvx)) (_ : k1 = (k - sgnvy)) :
    (0 ≤ i ∧ i < nz) ∧ (0 ≤ j ∧ j < nx) ∧ (0 ≤ k ∧ k < ny) ∧ (0 ≤ 1 ∧ 1 < 3) := ⟨Idx.down, Idx.up, Idx.down, by decide⟩

theorem fteik3d_sweep_L184c12_ctx7 (i i1 j j1 k k1 nx ny nz sgntx sgnty sgntz sgnvx sgnvy sgnvz : Int) (_ : 2 ≤ nz) (_ : 2 ≤ nx) (_ : 2 ≤ ny) (_ : k ≤ (ny - 2)) (_ : (-1) < k) (_ : j ≤ (nx - 2)) (_ : (-1) < j) (_ : i ≤ (nz - 2)) (_ : (-1) < i) (_ : sgnvz = 0) (_ : sgnvx = 0) (_ : sgnvy = 0) (_ : sgntz = -1) (_ : sgntx = -1) (_ : sgnty = -1) (_ : i1 = (i - sgnvz)) (_ : j1 = (j - sgnvx)) (_ : k1 = (k - sgnvy)) :
    (0 ≤ i ∧ i < nz) ∧ (0 ≤ j ∧ j < nx) ∧ (0 ≤ k ∧ k < ny) ∧ (0 ≤ 1 ∧ 1 < 3) := ⟨Idx.down, Idx.down, Idx.down, by decide⟩

theorem fteik3d_sweep_L185c12_ctx0 (i i1 j j1 k k1 nx ny nz sgntx sgnty sgntz sgnvx sgnvy sgnvz : Int) (_ : 2 ≤ nz) (_ : 2 ≤ nx) (_ : 2 ≤ ny) (_ : 1 ≤ k) (_ : k < ny) (_ : 1 ≤ j) (_ : j < nx) (_ : 1 ≤ i) (_ : i < nz) (_ : sgnvz = 1) (_ : sgnvx = 1) (_ : sgnvy = 1) (_ : sgntz = 1) (_ : sgntx = 1) (_ : sgnty = 1) (_ : i1 = (i - sgnvz)) (_ : j1 = (j - sgnvx)) (_ : k1 = (k - sgnvy)) :
    (0 ≤ i ∧ i < nz) ∧ (0 ≤ j ∧ j < nx) ∧ (0 ≤ k ∧ k < ny) ∧ (0 ≤ 2 ∧ 2 < 3) := ⟨Idx.up, Idx.up, Idx.up, by decide⟩

theorem fteik3d_sweep_L185c12_ctx1 (i i1 j j1 k k1 nx ny nz sgntx sgnty sgntz sgnvx sgnvy sgnvz : Int) (_ : 2 ≤ nz) (_ : 2 ≤ nx) (_ : 2 ≤ ny) (_ : 1 ≤ k) (_ : k < ny) (_ : j ≤ (nx - 2)) (_ : (-1) < j) (_ : 1 ≤ i) (_ : i < nz) (_ : sgnvz = 1) (_ : sgnvx = 0) (_ : sgnvy = 1) (_ : sgntz = 1) (_ : sgntx = -1) (_ : sgnty = 1) (_ : i1 = (i - sgnvz)) (_ : j1 = (j - sgnvx)) (_ : k1 = (k - sgnvy)) :
    (0 ≤ i ∧ i < nz) ∧ (0 ≤ j ∧ j < nx) ∧ (0 ≤ k ∧ k < ny) ∧ (0 ≤ 2 ∧ 2 < 3) := ⟨Idx.up, Idx.down, Idx.up, by decide⟩

theorem fteik3d_sweep_L185c12_ctx2 (i i1 j j1 k k1 nx ny nz sgntx sgnty sgntz sgnvx sgnvy sgnvz : Int) (_ : 2 ≤ nz) (_ : 2 ≤ nx) (_ : 2 ≤ ny) (_ : k ≤ (ny - 2)) (_ : (-1) < k) (_ : 1 ≤ j) (_ : j < nx) (_ : 1 ≤ i) (_ : i < nz) (_ : sgnvz = 1) (_ : sgnvx = 1) (_ : sgnvy = 0) (_ : sgntz = 1) (_ : sgntx = 1) (_ : sgnty = -1) (_ : i1 = (i - sgnvz)) (_ : j1 = (j - sgnvx)) (_ : k1 = (k - sgnvy)) :
    (0 ≤ i ∧ i < nz) ∧ (0 ≤ j ∧ j < nx) ∧ (0 ≤ k ∧ k < ny) ∧ (0 ≤ 2 ∧ 2 < 3) := ⟨Idx.up, Idx.up, Idx.down, by decide⟩

theorem fteik3d_sweep_L185c12_ctx3 (i i1 j j1 k k1 nx ny nz sgntx sgnty sgntz sgnvx sgnvy sgnvz : Int) (_ : 2 ≤ nz) (_ : 2 ≤ nx) (_ : 2 ≤ ny) (_ : k ≤ (ny - 2)) (_ : (-1) < k) (_ : j ≤ (nx - 2)) (_ : (-1) < j) (_ : 1 ≤ i) (_ : i < nz) (_ : sgnvz = 1) (_ : sgnvx = 0) (_ : sgnvy = 0) (_ : sgntz = 1) (_ : sgntx = -1) (_ : sgnty = -1) (_ : i1 = (i - sgnvz)) (_ : j1 = (j - sgnvx)) (_ : k1 = (k - sgnvy)) :
    (0 ≤ i ∧ i < nz) ∧ (0 ≤ j ∧ j < nx) ∧ (0 ≤ k ∧ k < ny) ∧ (0 ≤ 2 ∧ 2 < 3) := ⟨Idx.up, Idx.down, Idx.down, by decide⟩

theorem fteik3d_sweep_L185c12_ctx4 (i i1 j j1 k k1 nx ny nz sgntx sgnty sgntz sgnvx sgnvy sgnvz : Int) (_ : 2 ≤ nz) (_ : 2 ≤ nx) (_ : 2 ≤ ny) (_ : 1 ≤ k) (_ : k < ny) (_ : 1 ≤ j) (_ : j < nx) (_ : i ≤ (nz - 2)) (_ : (-1) < i) (_ : sgnvz = 0) (_ : sgnvx = 1) (_ : sgnvy = 1) (_ : sgntz = -1) (_ : sgntx = 1) (_ : sgnty = 1) (_ : i1 = (i - sgnvz)) (_ : j1 = (j - sgnvx)) (_ : k1 = (k - sgnvy)) :
    (0 ≤ i ∧ i < nz) ∧ (0 ≤ j ∧ j < nx) ∧ (0 ≤ k ∧ k < ny) ∧ (0 ≤ 2 ∧ 2 < 3) := ⟨Idx.down, Idx.up, Idx.up, by decide⟩

theorem fteik3d_sweep_L185c12_ctx5 (i i1 j j1 k k1 nx ny nz sgntx sgnty sgntz sgnvx sgnvy sgnvz : Int) (_ : 2 ≤ nz) (_ : 2 ≤ nx) (_ : 2 ≤ ny) (_ : 1 ≤ k) (_ : k < ny) (_ : j ≤ (nx - 2)) (_ : (-1) < j) (_ : i ≤ (nz - 2)) (_ : (-1) < i) (_ : sgnvz = 0) (_ : sgnvx = 0) (_ : sgnvy = 1) (_ : sgntz = -1) (_ : sgntx = -1) (_ : sgnty = 1) (_ : i1 = (i - sgnvz)) (_ : j1 = (j - sgnvx)) (_ : k1 = (k - sgnvy)) :
    (0 ≤ i ∧ i < nz) ∧ (0 ≤ j ∧ j < nx) ∧ (0 ≤ k ∧ k < ny) ∧ (0 ≤ 2 ∧ 2 < 3) := ⟨Idx.down, Idx.down, Idx.up, by decide⟩

theorem fteik3d_sweep_L185c12_ctx6 (i i1 j j1 k k1 nx ny nz sgntx sgnty sgntz sgnvx sgnvy sgnvz : Int) (_ : 2 ≤ nz) (_ : 2 ≤ nx) (_ : 2 ≤ ny) (_ : k ≤ (ny - 2)) (_ : (-1) < k) (_ : 1 ≤ j) (_ : j < nx) (_ : i ≤ (nz - 2)) (_ : (-1) < i) (_ : sgnvz = 0) (_ : sgnvx = 1) (_ : sgnvy = 0) (_ : sgntz = -1) (_ : sgntx = 1) (_ : sgnty = -1) (_ : i1 = (i - sgnvz)) (_ : j1 = (j - sgnvx)) (_ : k1 = (k - sgnvy)) :
    (0 ≤ i ∧ i < nz) ∧ (0 ≤ j ∧ j < nx) ∧ (0 ≤ k ∧ k < ny) ∧ (0 ≤ 2 ∧ 2 < 3) := ⟨Idx.down, Idx.up, Idx.down, by decide⟩

theorem fteik3d_sweep_L185c12_ctx7 (i i1 j j1 k k1 nx ny nz sgntx sgnty sgntz sgnvx sgnvy sgnvz : Int) (_ : 2 ≤ nz) (_ : 2 ≤ nx) (_ : 2 ≤ ny) (_ : k ≤ (ny - 2)) (_ : (-1) < k) (_ : j ≤ (nx - 2)) (_ : (-1) < j) (_ : i ≤ (nz - 2)) (_ : (-1) < i) (_ : sgnvz = 0) (_ : sgnvx = 0) (_ : sgnvy = 0) (_ : sgntz = -1) (_ : sgntx = -1) (_ : sgnty = -1) (_ : i1 = (i - sgnvz)) (_ : j1 = (j - sgnvx)) (_ : k1 = (k - sgnvy)) :
    (0 ≤ i ∧ i < nz) ∧ (0 ≤ j ∧ j < nx) ∧ (0 ≤ k ∧ k < ny) ∧ (0 ≤ 2 ∧ 2 < 3) := ⟨Idx.down, Idx.down, Idx.down, by decide⟩

theorem fteik3d_sweep_L187c13_ctx0 (i i1 j j1 k k1 nx ny nz sgntx sgnty sgntz sgnvx sgnvy sgnvz : Int) (_ : 2 ≤ nz) (_ : 2 ≤ nx) (_ : 2 ≤ ny) (_ : 1 ≤ k) (_ : k < ny) (_ : 1 ≤ j) (_ : j < nx) (_ : 1 ≤ i) (_ : i < nz) (_ : sgnvz = 1) (_ : sgnvx = 1) (_ : sgnvy = 1) (_ : sgntz = 1) (_ : sgntx = 1) (_ : sgnty = 1) (_ : i1 = (i - sgnvz)) (_ : j1 = (j - sgnvx)) (_ : k1 = (k - sgnvy)) :
    (0 ≤ i ∧ i < nz) ∧ (0 ≤ j ∧ j < nx) ∧ (0 ≤ k ∧ k < ny) := ⟨Idx.up, Idx.up, Idx.up⟩

theorem fteik3d_sweep_L187c13_ctx1 (i i1 j j1 k k1 nx ny nz sgntx sgnty sgntz sgnvx sgnvy sgnvz : Int) (_ : 2 ≤ nz) (_ : 2 ≤ nx) (_ : 2 ≤ ny) (_ : 1 ≤ k) (_ : k < ny) (_ : j ≤ (nx - 2)) (_ : (-1) < j) (_ : 1 ≤ i) (_ : i < nz) (_ : sgnvz = 1) (_ : sgnvx = 0) (_ : sgnvy = 1) (_ : sgntz = 1) (_ : sgntx = -1) (_ : sgnty = 1) (_ : i1 = (i - sgnvz)) (_ : j1 = (j - sgnvx)) (_ : k1 = (k - sgnvy)) :
    (0 ≤ i ∧ i < nz) ∧ (0 ≤ j ∧ j < nx) ∧ (0 ≤ k ∧ k < ny) := ⟨Idx.up, Idx.down, Idx.up⟩

theorem fteik3d_sweep_L187c13_ctx2 (i i1 j j1 k k1 nx ny nz sgntx sgnty sgntz sgnvx sgnvy sgnvz : Int) (_ : 2 ≤ nz) (_ : 2 ≤ nx) (_ : 2 ≤ ny) (_ : k ≤ (ny - 2)) (_ : (-1) < k) (_ : 1 ≤ j) (_ : j < nx) (_ : 1 ≤ i) (_ : i < nz) (_ : sgnvz = 1) (_ : sgnvx = 1) (_ : sgnvy = 0) (_ : sgntz = 1) (_ : sgntx = 1) (_ : sgnty = -1) (_ : i1 = (i - sgnvz)) (_ : j1 = (j - sgnvx)) (_ : k1 = (k - sgnvy)) :
    (0 ≤ i ∧ i < nz) ∧ (0 ≤ j ∧ j < nx) ∧ (0 ≤ k ∧ k < ny) := ⟨Idx.up, Idx.up, Idx.down⟩

theorem fteik3d_sweep_L187c13_ctx3 (i i1 j j1 k k1 nx ny nz sgntx sgnty sgntz sgnvx sgnvy sgnvz : Int) (_ : 2 ≤ nz) (_ : 2 ≤ nx) (_ : 2 ≤ ny) (_ : k ≤ (ny - 2)) (_ : (-1) < k) (_ : j ≤ (nx - 2)) (_ : (-1) < j) (_ : 1 ≤ i) (_ : i < nz) (_ : sgnvz = 1) (_ : sgnvx = 0) (_ : sgnvy = 0) (_ : sgntz = 1) (_ : sgntx = -1) (_ : sgnty = -1) (_ : i1 = (i - sgnvz)) (_ : j1 = (j - sgnvx)) (_ : k1 = (k - sgnvy)) :
    (0 ≤ i ∧ i < nz) ∧ (0 ≤ j ∧ j < nx) ∧ (0 ≤ k ∧ k < ny) := ⟨Idx.up, Idx.down, Idx.down⟩

theorem fteik3d_sweep_L187c13_ctx4 (i i1 j j1 k k1 nx ny nz sgntx sgnty sgntz sgnvx sgnvy sgnvz : Int) (_ : 2 ≤ nz) (_ : 2 ≤ nx) (_ : 2 ≤ ny) (_ : 1 ≤ k) (_ : k < ny) (_ : 1 ≤ j) (_ : j < nx) (_ : i ≤ (nz - 2)) (_ : (-1) < i) (_ : sgnvz = 0) (_ : sgnvx = 1) (_ : sgnvy = 1) (_ : sgntz = -1) (_ : sgntx = 1) (_ : sgnty = 1) (_ : i1 = (i - sgnvz)) (_ : j1 = (j - sgnvx)) (_ : k1 = (k - sgnvy)) :
    (0 ≤ i ∧ i < nz) ∧ (0 ≤ j ∧ j < nx) ∧ (0 ≤ k ∧ k < ny) := ⟨Idx.down, Idx.up, Idx.up⟩

theorem fteik3d_sweep_L187c13_ctx5 (i i1 j j1 k k1 nx ny nz sgntx sgnty sgntz sgnvx sgnvy sgnvz : Int) (_ : 2 ≤ nz) (_ : 2 ≤ nx) (_ : 2 ≤ ny) (_ : 1 ≤ k) (_ : k < ny) (_ : j ≤ (nx - 2)) (_ : (-1) < j) (_ : i ≤ (nz - 2)) (_ : (-1) < i) (_ : sgnvz = 0) (_ : sgnvx = 0) (_ : sgnvy = 1) (_ : sgntz = -1) (_ : sgntx = -1) (_ : sgnty = 1) (_ : i1 = (i - sgnvz)) (_ : j1 = (j - sgnvx)) (_ : k1 = (k - sgnvy)) :
    (0 ≤ i ∧ i < nz) ∧ (0 ≤ j ∧ j < nx) ∧ (0 ≤ k ∧ k < ny) := ⟨Idx.down, Idx.down, Idx.up⟩

theorem fteik3d_sweep_L187c13_ctx6 (i i1 j j1 k k1 nx ny nz sgntx sgnty sgntz sgnvx sgnvy sgnvz : Int) (_ : 2 ≤ nz) (_ : 2 ≤ nx) (_ : 2 ≤ ny) (_ : k ≤ (ny - 2)) (_ : (-1) < k) (_ : 1 ≤ j) (_ : j < nx) (_ : i ≤ (nz - 2)) (_ : (-1) < i) (_ : sgnvz = 0) (_ : sgnvx = 1) (_ : sgnvy = 0) (_ : sgntz = -1) (_ : sgntx = 1) (_ : sgnty = -1) (_ : i1 = (i - sgnvz)) (_ : j1 = (j - sgnvx)) (_ : k1 = (k - sgnvy)) :
    (0 ≤ i ∧ i < nz) ∧ (0 ≤ j ∧ j < nx) ∧ (0 ≤ k ∧ k < ny) := ⟨Idx.down, Idx.up, Idx.down⟩

theorem fteik3d_sweep_L187c13_ctx7 (i i1 j j1 k k1 nx ny nz sgntx sgnty sgntz sgnvx sgnvy sgnvz : Int) (_ : 2 ≤ nz) (_ : 2 ≤ nx) (_ : 2 ≤ ny) (_ : k ≤ (ny - 2)) (_ : (-1) < k) (_ : j ≤ (nx - 2)) (_ : (-1) < j) (_ : i ≤ (nz - 2)) (_ : (-1) < i) (_ : sgnvz = 0) (_ : sgnvx = 0) (_ : sgnvy = 0) (_ : sgntz = -1) (_ : sgntx = -1) (_ : sgnty = -1) (_ : i1 = (i - sgnvz)) (_ : j1 = (j - sgnvx)) (_ : k1 = (k - sgnvy)) :
    (0 ≤ i ∧ i < nz) ∧ (0 ≤ j ∧ j < nx) ∧ (0 ≤ k ∧ k < ny) := ⟨Idx.down, Idx.down, Idx.down⟩

theorem fteik3d_sweep_L188c12_ctx0 (i i1 j j1 k k1 nx ny nz sgntx sgnty sgntz sgnvx sgnvy sgnvz : Int) (_ : 2 ≤ nz) (_ : 2 ≤ nx) (_ : 2 ≤ ny) (_ : 1 ≤ k) (_ : k < ny) (_ : 1 ≤ j) (_ : j < nx) (_ : 1 ≤ i) (_ : i < nz) (_ : sgnvz = 1) (_ : sgnvx = 1) (_ : sgnvy = 1) (_ : sgntz = 1) (_ : sgntx = 1) (_ : sgnty = 1) (_ : i1 = (i - sgnvz)) (_ : j1 = (j - sgnvx)) (_ : k1 = (k - sgnvy)) :
    (0 ≤ i ∧ i < nz) ∧ (0 ≤ j ∧ j < nx) ∧ (0 ≤ k ∧ k < ny) ∧ (0 ≤ 0 ∧ 0 < 3) := ⟨Idx.up, Idx.up, Idx.up, by decide⟩

theorem fteik3d_sweep_L188c12_ctx1 (i i1 j j1 k k1 nx ny nz sgntx sgnty sgntz sgnvx sgnvy sgnvz : Int) (_ : 2 ≤ nz) (_ : 2 ≤ nx) (_ : 2 ≤ ny) (_ : 1 ≤ k) (_ : k < ny) (_ : j ≤ (nx - 2)) (_ : (-1) < j) (_ : 1 ≤ i) (_ : i < nz) (_ : sgnvz = 1) (_ : sgnvx = 0) (_ : sgnvy = 1) (_ : sgntz = 1) (_ : sgntx = -1) (_ : sgnty = 1) (_ : i1 = (i - sgnvz)) (_ : j1 = (j - sgnvx)) (_ : k1 = (k - sgnvy)) :
    (0 ≤ i ∧ i < nz) ∧ (0 ≤ j ∧ j < nx) ∧ (0 ≤ k ∧ k < ny) ∧ (0 ≤ 0 ∧ 0 < 3) := ⟨Idx.up, Idx.down, Idx.up, by decide⟩

theorem fteik3d_sweep_L188c12_ctx2 (i i1 j j1 k k1 nx ny nz sgntx sgnty sgntz sgnvx sgnvy sgnvz : Int) (_ : 2 ≤ nz) (_ : 2 ≤ nx) (_ : 2 ≤ ny) (_ : k ≤ (ny - 2)) (_ : (-1) < k) (_ : 1 ≤ j) (_ : j < nx) (_ : 1 ≤ i) (_ : i < nz) (_ : sgnvz = 1) (_ : sgnvx = 1) (_ : sgnvy = 0) (_ : sgntz = 1) (_ : sgntx = 1) (_ : sgnty = -1) (_ : i1 = (i - sgnvz)) (_ : j1 = (j - sgnvx)) (_ : k1 = (k - sgnvy)) :
    (0 ≤ i ∧ i < nz) ∧ (0 ≤ j ∧ j < nx) ∧ (0 ≤ k ∧ k < ny) ∧ (0 ≤ 0 ∧ 0 < 3) := ⟨Idx.up, Idx.up, Idx.down, by decide⟩

theorem fteik3d_sweep_L188c12_ctx3 (i i1 j j1 k k1 nx ny nz sgntx sgnty sgntz sgnvx sgnvy sgnvz : Int) (_ : 2 ≤ nz) (_ : 2 ≤ nx) (_ : 2 ≤ ny) (_ : k ≤ (ny - 2)) (_ : (-1) < k) (_ : j ≤ (nx - 2)) (_ : (-1) < j) (_ : 1 ≤ i) (_ : i < nz) (_ : sgnvz = 1) (_ : sgnvx = 0) (_ : sgnvy = 0) (_ : sgntz = 1) (_ : sgntx = -1) (_ : sgnty = -1) (_ : i1 = (i - sgnvz)) (_ : j1 = (j - sgnvx)) (_ : k1 = (k - sgnvy)) :
    (0 ≤ i ∧ i < nz) ∧ (0 ≤ j ∧ j < nx) ∧ (0 ≤ k ∧ k < ny) ∧ (0 ≤ 0 ∧ 0 < 3) := ⟨Idx.up, Idx.down, Idx.down, by decide⟩

theorem fteik3d_sweep_L188c12_ctx4 (i i1 j j1 k k1 nx ny nz sgntx sgnty sgntz sgnvx sgnvy sgnvz : Int) (_ : 2 ≤ nz) (_ : 2 ≤ nx) (_ : 2 ≤ ny) (_ : 1 ≤ k) (_ : k < ny) (_ : 1 ≤ j) (_ : j < nx) (_ : i ≤ (nz - 2)) (_ : (-1) < i) (_ : sgnvz = 0) (_ : sgnvx = 1) (_ : sgnvy = 1) (_ : sgntz = -1) (_ : sgntx = 1) (_ : sgnty = 1) (_ : i1 = (i - sgnvz)) (_ : j1 = (j - sgnvx)) (_ : k1 = (k - sgnvy)) :
    (0 ≤ i ∧ i < nz) ∧ (0 ≤ j ∧ j < nx) ∧ (0 ≤ k ∧ k < ny) ∧ (0 ≤ 0 ∧ 0 < 3) := ⟨Idx.down, Idx.up, Idx.up, by decide⟩

theorem fteik3d_sweep_L188c12_ctx5 (i i1 j j1 k k1 nx ny nz sgntx sgnty sgntz sgnvx sgnvy sgnvz : Int) (_ : 2 ≤ nz) (_ : 2 ≤ nx) (_ : 2 ≤ ny) (_ : 1 ≤ k) (_ : k < ny) (_ : j ≤ (nx - 2)) (_ : (-1) < j) (_ : i ≤ (nz - 2)) (_ : (-1) < i) (_ : sgnvz = 0) (_ : sgnvx = 0) (_ : sgnvy = 1) (_ : sgntz = -1) (_ : sgntx = -1) (_ : sgnty = 1) (_ : i1 = (i - sgnvz)) (_ : j1 = (j - sgnvx)) (_ : k1 = (k - sgnvy)) :
    (0 ≤ i ∧ i < nz) ∧ (0 ≤ j ∧ j < nx) ∧ (0 ≤ k ∧ k < ny) ∧ (0 ≤ 0 ∧ 0 < 3) := ⟨Idx.down, Idx.down, Idx.up, by decide⟩

theorem fteik3d_sweep_L188c12_ctx6 (i i1 j j1 k k1 nx ny nz sgntx sgnty sgntz sgnvx sgnvy sgnvz : Int) (_ : 2 ≤ nz) (_ : 2 ≤ nx) (_ : 2 ≤ ny) (_ : k ≤ (ny - 2)) (_ : (-1) < k) (_ : 1 ≤ j) (_ : j < nx) (_ : i ≤ (nz - 2)) (_ : (-1) < i) (_ : sgnvz = 0) (_ : sgnvx = 1) (_ : sgnvy = 0) (_ : sgntz = -1) (_ : sgntx = 1) (_ : sgnty = -1) (_ : i1 = (i - sgnvz)) (_ : j1 = (j - sgnvx)) (_ : k1 = (k - sgnvy)) :
    (0 ≤ i ∧ i < nz) ∧ (0 ≤ j ∧ j < nx) ∧ (0 ≤ k ∧ k < ny) ∧ (0 ≤ 0 ∧ 0 < 3) := ⟨Idx.down, Idx.up, Idx.down, by decide⟩

theorem fteik3d_sweep_L188c12_ctx7 (i i1 j j1 k k1 nx ny nz sgntx sgnty sgntz sgnvx sgnvy sgnvz : Int) (_ : 2 ≤ nz) (_ : 2 ≤ nx) (_ : 2 ≤ ny) (_ : k ≤ (ny - 2)) (_ : (-1) < k) (_ : j ≤ (nx - 2)) (_ : (-1) < j) (_ : i ≤ (nz - 2)) (_ : (-1) < i) (_ : sgnvz = 0) (_ : sgnvx = 0) (_ : sgnvy = 0) (_ : sgntz = -1) (_ : sgntx = -1) (_ : sgnty = -1) (_ : i1 = (i - sgnvz)) (_ : j1 = (j - sgnvx)) (_ : k1 = (k - sgnvy)) :
    (0 ≤ i ∧ i < nz) ∧ (0 ≤ j ∧ j < nx) ∧ (0 ≤ k ∧ k < ny) ∧ (0 ≤ 0 ∧ 0 < 3) := ⟨Idx.down, Idx.down, Idx.down, by decide⟩

theorem fteik3d_sweep_L189c12_ctx0 (i i1 j j1 k k1 nx ny nz sgntx sgnty sgntz sgnvx sgnvy sgnvz : Int) (_ : 2 ≤ nz) (_ : 2 ≤ nx) (_ : 2 ≤ ny) (_ : 1 ≤ k) (_ : k < ny) (_ : 1 ≤ j) (_ : j < nx) (_ : 1 ≤ i) (_ : i < nz) (_ : sgnvz = 1) (_ : sgnvx = 1) (_ : sgnvy = 1) (_ : sgntz = 1) (_ : sgntx = 1) (_ : sgnty = 1) (_ : i1 = (i - sgnvz)) (_ : j1 = (j - sgnvx)) (_ : k1 = (k - sgnvy)) :
    (0 ≤ i ∧ i < nz) ∧ (0 ≤ j ∧ j < nx) ∧ (0 ≤ k ∧ k < ny) ∧ (0 ≤ 1 ∧ 1 < 3) := ⟨Idx.up, Idx.up, Idx.up, by decide⟩

theorem fteik3d_sweep_L189c12_ctx1 (i i1 j j1 k k1 nx ny nz sgntx sgnty sgntz sgnvx sgnvy sgnvz : Int) (_ : 2 ≤ nz) (_ : 2 ≤ nx) (_ : 2 ≤ ny) (_ : 1 ≤ k) (_ : k < ny) (_ : j ≤ (nx - 2)) (_ : (-1) < j) (_ : 1 ≤ i) (_ : i < nz) (_ : sgnvz = 1) (_ : sgnvx = 0) (_ : sgnvy = 1) (_ : sgntz = 1) (_ : sgntx = -1) (_ : sgnty = 1) (_ : i1 = (i - sgnvz)) (_ : j1 = (j - sgnvx)) (_ : k1 = (k - sgnvy)) :
    (0 ≤ i ∧ i < nz) ∧ (0 ≤ j ∧ j < nx) ∧ (0 ≤ k ∧ k < ny) ∧ (0 ≤ 1 ∧ 1 < 3) := ⟨Idx.up, Idx.down, Idx.up, by decide⟩

theorem fteik3d_sweep_L189c12_ctx2 (i i1 j j1 k k1 nx ny nz sgntx sgnty sgntz sgnvx sgnvy sgnvz : Int) (_ : 2 ≤ nz) (_ : 2 ≤ nx) (_ : 2 ≤ ny) (_ : k ≤ (ny - 2)) (_ : (-1) < k) (_ : 1 ≤ j) (_ : j < nx) (_ : 1 ≤ i) (_ : i < nz) (_ : sgnvz = 1) (_ : sgnvx = 1) (_ : sgnvy = 0) (_ : sgntz = 1) (_ : sgntx = 1) (_ : sgnty = -1) (_ : i1 = (i - sgnvz)) (_ : j1 = (j - sgnvx)) (_ : k1 = (k - sgnvy)) :
    (0 ≤ i ∧ i < nz) ∧ (0 ≤ j ∧ j < nx) ∧ (0 ≤ k ∧ k < ny) ∧ (0 ≤ 1 ∧ 1 < 3) := ⟨Idx.up, Idx.up, Idx.down, by decide⟩

theorem fteik3d_sweep_L189c12_ctx3 (i i1 j j1 k k1 nx ny nz sgntx sgnty sgntz sgnvx sgnvy sgnvz : Int) (_ : 2 ≤ nz) (_ : 2 ≤ nx) (_ : 2 ≤ ny) (_ : k ≤ (ny - 2)) (_ : (-1) < k) (_ : j ≤ (nx - 2)) (_ : (-1) < j) (_ : 1 ≤ i) (_ : i < nz) (_ : sgnvz = 1) (_ : sgnvx = 0) (_ : sgnvy = 0) (_ : sgntz = 1) (_ : sgntx = -1) (_ : sgnty = -1) (_ : i1 = (i - sgnvz)) (_ : j1 = (j - sgnvx)) (_ : k1 = (k - sgnvy)) :
    (0 ≤ i ∧ i < nz) ∧ (0 ≤ j ∧ j < nx) ∧ (0 ≤ k ∧ k < ny) ∧ (0 ≤ 1 ∧ 1 < 3) := ⟨Idx.up, Idx.down, Idx.down, by decide⟩

theorem fteik3d_sweep_L189c12_ctx4 (i i1 j j1 k k1 nx ny nz sgntx sgnty sgntz sgnvx sgnvy sgnvz : Int) (_ : 2 ≤ nz) (_ : 2 ≤ nx) (_ : 2 ≤ ny) (_ : 1 ≤ k) (_ : k < ny) (_ : 1 ≤ j) (_ : j < nx) (_ : i ≤ (nz - 2)) (_ : (-1) < i) (_ : sgnvz = 0) (_ : sgnvx = 1) (_ : sgnvy = 1) (_ : sgntz = -1) (_ : sgntx = 1) (_ : sgnty = 1) (_ : i1 = (i - sgnvz)) (_ : j1 = (j - sgnvx)) (_ : k1 = (k - sgnvy)) :
    (0 ≤ i ∧ i < nz) ∧ (0 ≤ j ∧ j < nx) ∧ (0 ≤ k ∧ k < ny) ∧ (0 ≤ 1 ∧ 1 < 3) := ⟨Idx.down, Idx.up, Idx.up, by decide⟩

theorem fteik3d_sweep_L189c12_ctx5 (i i1 j j1 k k1 nx ny nz sgntx sgnty sgntz sgnvx sgnvy sgnvz : Int) (_ : 2 ≤ nz) (_ : 2 ≤ nx) (_ : 2 ≤ ny) (_ : 1 ≤ k) (_ : k < ny) (_ : j ≤ (nx - 2)) (_ : (-1) < j) (_ : i ≤ (nz - 2)) (_ : (-1) < i) (_ : sgnvz = 0) (_ : sgnvx = 0) (_ : sgnvy = 1) (_ : sgntz = -1) (_ : sgntx = -1) (_ : sgnty = 1) (_ : i1 = (i - sgnvz)) (_ : j1 = (j - sgnvx)) (_ : k1 = (k - sgnvy)) :
    (0 ≤ i ∧ i < nz) ∧ (0 ≤ j ∧ j < nx) ∧ (0 ≤ k ∧ k < ny) ∧ (0 ≤ 1 ∧ 1 < 3) := ⟨Idx.down, Idx.down, Idx.up, by decide⟩

theorem fteik3d_sweep_L189c12_ctx6 (i i1 j j1 k k1 nx ny nz sgntx sgnty sgntz sgnvx sgnvy sgnvz : Int) (_ : 2 ≤ nz) (_ : 2 ≤ nx) (_ : 2 ≤ ny) (_ : k ≤ (ny - 2)) (_ : (-1) < k) (_ : 1 ≤ j) (_ : j < nx) (_ : i ≤ (nz - 2)) (_ : (-1) < i) (_ : sgnvz = 0) (_ : sgnvx = 1) (_ : sgnvy = 0) (_ : sgntz = -1) (_ : sgntx = 1) (_ : sgnty = -1) (_ : i1 = (i - sgnvz)) (_ : j1 = (j - sgnvx)) (_ : k1 = (k - sgnvy)) :
    (0 ≤ i ∧ i < nz) ∧ (0 ≤ j ∧ j < nx) ∧ (0 ≤ k ∧ k < ny) ∧ (0 ≤ 1 ∧ 1 < 3) := ⟨Idx.down, Idx.up, Idx.down, by decide⟩

theorem fteik3d_sweep_L189c12_ctx7 (i i1 j j1 k k1 nx ny nz sgntx sgnty sgntz sgnvx sgnvy sgnvz : Int) (_ : 2 ≤ nz) (_ : 2 ≤ nx) (_ : 2 ≤ ny) (_ : k ≤ (ny - 2)) (_ : (-1) < k) (_ : j ≤ (nx - 2)) (_ : (-1) < j) (_ : i ≤ (nz - 2)) (_ : (-1) < i) (_ : sgnvz = 0) (_ : sgnvx = 0) (_ : sgnvy = 0) (_ : sgntz = -1) (_ : sgntx = -1) (_ : sgnty = -1) (_ : i1 = (i - sgnvz)) (_ : j1 = (j - sgnvx)) (_ : k1 = (k - sgnvy)) :
    (0 ≤ i ∧ i < nz) ∧ (0 ≤ j ∧ j < nx) ∧ (0 ≤ k ∧ k < ny) ∧ (0 ≤ 1 ∧ 1 < 3) := ⟨Idx.down, Idx.down, Idx.down, by decide⟩

theorem fteik3d_sweep_L190c12_ctx0 (i i1 j j1 k k1 nx ny nz sgntx sgnty sgntz sgnvx sgnvy sgnvz : Int) (_ : 2 ≤ nz) (_ : 2 ≤ nx) (_ : 2 ≤ ny) (_ : 1 ≤ k) (_ : k < ny) (_ : 1 ≤ j) (_ : j < nx) (_ : 1 ≤ i) (_ : i < nz) (_ : sgnvz = 1) (_ : sgnvx = 1) (_ : sgnvy = 1) (_ : sgntz = 1) (_ : sgntx = 1) (_ : sgnty = 1) (_ : i1 = (i - sgnvz)) (_ : j1 = (j - sgnvx)) (_ : k1 = (k - sgnvy)) :
    (0 ≤ i ∧ i < nz) ∧ (0 ≤ j ∧ j < nx) ∧ (0 ≤ k ∧ k < ny) ∧ (0 ≤ 2 ∧ 2 < 3) := ⟨Idx.up, Idx.up, Idx.up, by decide⟩

theorem fteik3d_sweep_L190c12_ctx1 (i i1 j j1 k k1 nx ny nz sgntx sgnty sgntz sgnvx sgnvy sgnvz : Int) (_ : 2 ≤ nz) (_ : 2 ≤ nx) (_ : 2 ≤ ny) (_ : 1 ≤ k) (_ : k < ny) (_ : j ≤ (nx - 2)) (_ : (-1) < j) (_ : 1 ≤ i) (_ : i < nz) (_ : sgnvz = 1) (_ : sgnvx = 0) (_ : sgnvy = 1) (_ : sgntz = 1) (_ : sgntx = -1) (_ : sgnty = 1) (_ : i1 = (i - sgnvz)) (_ : j1 = (j - sgnvx)) (_ : k1 = (k - sgnvy)) :
    (0 ≤ i ∧ i < nz) ∧ (0 ≤ j ∧ j < nx) ∧ (0 ≤ k ∧ k < ny) ∧ (0 ≤ 2 ∧ 2 < 3) := ⟨Idx.up, Idx.down, Idx.up, by decide⟩

theorem fteik3d_sweep_L190c12_ctx2 (i i1 j j1 k k1 nx ny nz sgntx sgnty sgntz sgnvx sgnvy sgnvz : Int) (_ : 2 ≤ nz) (_ : 2 ≤ nx) (_ : 2 ≤ ny) (_ : k ≤ (ny - 2)) (_ : (-1) < k) (_ : 1 ≤ j) (_ : j < nx) (_ : 1 ≤ i) (_ : i < nz) (_ : sgnvz = 1) (_ : sgnvx = 1) (_ : sgnvy = 0) (_ : sgntz = 1) (_ : sgntx = 1) (_ : sgnty = -1) (_ : i1 = (i - sgnvz)) (_ : j1 = (j - sgnvx)) (_ : k1 = (k - sgnvy)) :
    (0 ≤ i ∧ i < nz) ∧ (0 ≤ j ∧ j < nx) ∧ (0 ≤ k ∧ k < ny) ∧ (0 ≤ 2 ∧ 2 < 3) := ⟨Idx.up, Idx.up, Idx.down, by decide⟩

theorem fteik3d_sweep_L190c12_ctx3 (i i1 j j1 k k1 nx ny nz sgntx sgnty sgntz sgnvx sgnvy sgnvz : Int) (_ : 2 ≤ nz) (_ : 2 ≤ nx) (_ : 2 ≤ ny) (_ : k ≤ (ny - 2)) (_ : (-1) < k) (_ : j ≤ (nx - 2)) (_ : (-1) < j) (_ : 1 ≤ i) (_ : i < nz) (_ : sgnvz = 1) (_ : sgnvx = 0) (_ : sgnvy = 0) (_ : sgntz = 1) (_ : sgntx = -1) (_ : sgnty = -1) (_ : i1 = (i - sgnvz)) (_ : j1 = (j - sgnvx)) (_ : k1 = (k - sgnvy)) :
    (0 ≤ i ∧ i < nz) ∧ (0 ≤ j ∧ j < nx) ∧ (0 ≤ k ∧ k < ny) ∧ (0 ≤ 2 ∧ 2 < 3) := ⟨Idx.up, Idx.down, Idx.down, by decide⟩

theorem fteik3d_sweep_L190c12_ctx4 (i i1 j j1 k k1 nx ny nz sgntx sgnty sgntz sgnvx sgnvy sgnvz : Int) (_ : 2 ≤ nz) (_ : 2 ≤ nx) (_ : 2 ≤ ny) (_ : 1 ≤ k) (_ : k < ny) (_ : 1 ≤ j) (_ : j < nx) (_ : i ≤ (nz - 2)) (_ : (-1) < i) (_ : sgnvz = 0) (_ : sgnvx = 1) (_ : sgnvy = 1) (_ : sgntz = -1) (_ : sgntx = 1) (_ : sgnty = 1) (_ : i1 = (i - sgnvz)) (_ : j1 = (j - sgnvx)) (_ : k1 = (k - sgnvy)) :
    (0 ≤ i ∧ i < nz) ∧ (0 ≤ j ∧ j < nx) ∧ (0 ≤ k ∧ k < ny) ∧ (0 ≤ 2 ∧ 2 < 3) := ⟨Idx.down, Idx.up, Idx.up, by decide⟩

theorem fteik3d_sweep_L190c12_ctx5 (i i1 j j1 k k1 nx ny nz sgntx sgnty sgntz sgnvx sgnvy sgnvz : Int) (_ : 2 ≤ nz) (_ : 2 ≤ nx) (_ : 2 ≤ ny) (_ : 1 ≤ k) (_ : k < ny) (_ : j ≤ (nx - 2)) (_ : (-1) < j) (_ : i ≤ (nz - 2)) (_ : (-1) < i) (_ : sgnvz = 0) (_ : sgnvx = 0) (_ : sgnvy = 1) (_ : sgntz = -1) (_ : sgntx = -1) (_ : sgnty = 1) (_ : i1 = (i - sgnvz)) (_ : j1 = (j - sgnvx)) (_ : k1 = (k - sgnvy)) :
    (0 ≤ i ∧ i < nz) ∧ (0 ≤ j ∧ j < nx) ∧ (0 ≤ k ∧ k < ny) ∧ (0 ≤ 2 ∧ 2 < 3) := ⟨Idx.down, Idx.down, Idx.up, by decide⟩

theorem fteik3d_sweep_L190c12_ctx6 (i i1 j j1 k k1 nx ny nz sgntx sgnty sgntz sgnvx sgnvy sgnvz : Int) (_ : 2 ≤ nz) (_ : 2 ≤ nx) (_ : 2 ≤ ny) (_ : k ≤ (ny - 2)) (_ : (-1) < k) (_ : 1 ≤ j) (_ : j < nx) (_ : i ≤ (nz - 2)) (_ : (-1) < i) (_ : sgnvz = 0) (_ : sgnvx = 1) (_ : sgnvy = 0) (_ : sgntz = -1) (_ : sgntx = 1) (_ : sgnty = -1) (_ : i1 = (i - sgnvz)) (_ : j1 = (j - sgnvx)) (_ : k1 = (k - sgnvy)) :
    (0 ≤ i ∧ i < nz) ∧ (0 ≤ j ∧ j < nx) ∧ (0 ≤ k ∧ k < ny) ∧ (0 ≤ 2 ∧ 2 < 3) := ⟨Idx.down, Idx.up, Idx.down, by decide⟩

theorem fteik3d_sweep_L190c12_ctx7 (i i1 j j1 k k1 nx ny nz sgntx sgnty sgntz sgnvx sgnvy sgnvz : Int) (_ : 2 ≤ nz) (_ : 2 ≤ nx) (_ : 2 ≤ ny) (_ : k ≤ (ny - 2)) (_ : (-1) < k) (_ : j ≤ (nx - 2)) (_ : (-1) < j) (_ : i ≤ (nz - 2)) (_ : (-1) < i) (_ : sgnvz = 0) (_ : sgnvx = 0) (_ : sgnvy = 0) (_ : sgntz = -1) (_ : sgntx = -1) (_ : sgnty = -1) (_ : i1 = (i - sgnvz)) (_ : j1 = (j - sgnvx)) (_ : k1 = (k - sgnvy)) :
    (0 ≤ i ∧ i < nz) ∧ (0 ≤ j ∧ j < nx) ∧ (0 ≤ k ∧ k < ny) ∧ (0 ≤ 2 ∧ 2 < 3) := ⟨Idx.down, Idx.down, Idx.down, by decide⟩

theorem fteik3d_sweep_L192c13_ctx0 (i i1 j j1 k k1 nx ny nz sgntx sgnty sgntz sgnvx sgnvy sgnvz : Int) (_ : 2 ≤ nz) (_ : 2 ≤ nx) (_ : 2 ≤ ny) (_ : 1 ≤ k) (_ : k < ny) (_ : 1 ≤ j) (_ : j < nx) (_ : 1 ≤ i) (_ : i < nz) (_ : sgnvz = 1) (_ : sgnvx = 1) (_ : sgnvy = 1) (_ : sgntz = 1) (_ : sgntx = 1) (_ : sgnty = 1) (_ : i1 = (i - sgnvz)) (_ : j1 = (j - sgnvx)) (_ : k1 = (k - sgnvy)) :
    (0 ≤ i ∧ i < nz) ∧ (0 ≤ j ∧ j < nx) ∧ (0 ≤ k ∧ k < ny) := ⟨Idx.up, Idx.up, Idx.up⟩

theorem fteik3d_sweep_L192c13_ctx1 (i i1 j j1 k k1 nx ny nz sgntx sgnty sgntz sgnvx sgnvy sgnvz : Int) (_ : 2 ≤ nz) (_ : 2 ≤ nx) (_ : 2 ≤ ny) (_ : 1 ≤ k) (_ : k < ny) (_ : j ≤ (nx - 2)) (_ : (-1) < j) (_ : 1 ≤ i) (_ : i < nz) (_ : sgnvz = 1) (_ : sgnvx = 0) (_ : sgnvy = 1) (_ : sgntz = 1) (_ : sgntx = -1) (_ : sgnty = 1) (_ : i1 = (i - sgnvz)) (_ : j1 = (j - sgnvx)) (_ : k1 = (k - sgnvy)) :
    (0 ≤ i ∧ i < nz) ∧ (0 ≤ j ∧ j < nx) ∧ (0 ≤ k ∧ k < ny) := ⟨Idx.up, Idx.down, Idx.up⟩

theorem fteik3d_sweep_L192c13_ctx2 (i i1 j j1 k k1 nx ny nz sgntx sgnty sgntz sgnvx sgnvy sgnvz : Int) (_ : 2 ≤ nz) (_ : 2 ≤ nx) (_ : 2 ≤ ny) (_ : k ≤ (ny - 2)) (_ : (-1) < k) (_ : 1 ≤ j) (_ : j < nx) (_ : 1 ≤ i) (_ : i < nz) (_ : sgnvz = 1) (_ : sgnvx = 1) (_ : sgnvy = 0) (_ : sgntz = 1) (_ : sgntx = 1) (_ : sgnty = -1) (_ : i1 = (i - sgnvz)) (_ : j1 = (j - sgnvx)) (_ : k1 = (k - sgnvy)) :
    (0 ≤ i ∧ i < nz) ∧ (0 ≤ j ∧ j < nx) ∧ (0 ≤ k ∧ k < ny) := ⟨Idx.up, Idx.up, Idx.down⟩

theorem fteik3d_sweep_L192c13_ctx3 (i i1 j j1 k k1 nx ny nz sgntx sgnty sgntz sgnvx sgnvy sgnvz : Int) (_ : 2 ≤ nz) (_ : 2 ≤ nx) (_ : 2 ≤ ny) (_ : k ≤ (ny - 2)) (_ : (-1) < k) (_ : j ≤ (nx - 2)) (_ : (-1) < j) (_ : 1 ≤ i) (_ : i < nz) (_ : sgnvz = 1) (_ : sgnvx = 0) (_ : sgnvy = 0) (_ : sgntz = 1) (_ : sgntx = -1) (_ : sgnty = -1) (_ : i1 = (i - sgnvz)) (_ : j1 = (j - sgnvx)) (_ : k1 = (k - sgnvy)) :
    (0 ≤ i ∧ i < nz) ∧ (0 ≤ j ∧ j < nx) ∧ (0 ≤ k ∧ k < ny) := ⟨Idx.up, Idx.down, Idx.down⟩

theorem fteik3d_sweep_L192c13_ctx4 (i i1 j j1 k k1 nx ny nz sgntx sgnty sgntz sgnvx sgnvy sgnvz : Int) (_ : 2 ≤ nz) (_ : 2 ≤ nx) (_ : 2 ≤ ny) (_ : 1 ≤ k) (_ : k < ny) (_ : 1 ≤ j) (_ : j < nx) (_ : i ≤ (nz - 2)) (_ : (-1) < i) (_ : sgnvz = 0) (_ : sgnvx = 1) (_ : sgnvy = 1) (_ : sgntz = -1) (_ : sgntx = 1) (_ : sgnty = 1) (_ : i1 = (i - sgnvz)) (_ : j1 = (j - sgnvx)) (_ : k1 = (k - sgnvy)) :
    (0 ≤ i ∧ i < nz) ∧ (0 ≤ j ∧ j < nx) ∧ (0 ≤ k ∧ k < ny) := ⟨Idx.down, Idx.up, Idx.up⟩

theorem fteik3d_sweep_L192c13_ctx5 (i i1 j j1 k k1 nx ny nz sgntx sgnty sgntz sgnvx sgnvy sgnvz : Int) (_ : 2 ≤ nz) (_ : 2 ≤ nx) (_ : 2 ≤ ny) (_ : 1 ≤ k) (_ : k < ny) (_ : j ≤ (nx - 2)) (_ : (-1) < j) (_ : i ≤ (nz - 2)) (_ : (-1) < i) (_ : sgnvz = 0) (_ : sgnvx = 0) (_ : sgnvy = 1) (_ : sgntz = -1) (_ : sgntx = -1) (_ : sgnty = 1) (_ : i1 = (i - sgnvz)) (_ : j1 = (j - sgnvx)) (_ : k1 = (k - sgnvy)) :
    (0 ≤ i ∧ i < nz) ∧ (0 ≤ j ∧ j < nx) ∧ (0 ≤ k ∧ k < ny) := ⟨Idx.down, Idx.down, Idx.up⟩

theorem fteik3d_sweep_L192c13_ctx6 (i i1 j j1 k k1 nx ny nz sgntx sgnty sgntz sgnvx sgnvy sgnvz : Int) (_ : 2 ≤ nz) (_ : 2 ≤ nx) (_ : 2 ≤ ny) (_ : k ≤ (ny - 2)) (_ : (-1) < k) (_ : 1 ≤ j) (_ : j < nx) (_ : i ≤ (nz - 2)) (_ : (-1) < i) (_ : sgnvz = 0) (_ : sgnvx = 1) (_ : sgnvy = 0) (_ : sgntz = -1) (_ : sgntx = 1) (_ : sgnty = -1) (_ : i1 = (i - sgnvz)) (_ : j1 = (j - sgnvx)) (_ : k1 = (k - sgnvy)) :
    (0 ≤ i ∧ i < nz) ∧ (0 ≤ j ∧ j < nx) ∧ (0 ≤ k ∧ k < ny) := ⟨Idx.down, Idx.up, Idx.down⟩

theorem fteik3d_sweep_L192c13_ctx7 (i i1 j j1 k k1 nx ny nz sgntx sgnty sgntz sgnvx sgnvy sgnvz : Int) (_ : 2 ≤ nz) (_ : 2 ≤ nx) (_ : 2 ≤ ny) (_ : k ≤ (ny - 2)) (_ : (-1) < k) (_ : j ≤ (nx - 2)) (_ : (-1) < j) (_ : i ≤ (nz - 2)) (_ : (-1) < i) (_ : sgnvz = 0) (_ : sgnvx = 0) (_ : sgnvy = 0) (_ : sgntz = -1) (_ : sgntx = -1) (_ : sgnty = -1) (_ : i1 = (i - sgnvz)) (_ : j1 = (j - sgnvx)) (_ : k1 = (k - sgnvy)) :
    (0 ≤ i ∧ i < nz) ∧ (0 ≤ j ∧ j < nx) ∧ (0 ≤ k ∧ k < ny) := ⟨Idx.down, Idx.down, Idx.down⟩

theorem fteik3d_sweep_L193c12_ctx0 (i i1 j j1 k k1 nx ny nz sgntx sgnty sgntz sgnvx sgnvy sgnvz : Int) (_ : 2 ≤ nz) (_ : 2 ≤ nx) (_ : 2 ≤ ny) (_ : 1 ≤ k) (_ : k < ny) (_ : 1 ≤ j) (_ : j < nx) (_ : 1 ≤ i) (_ : i < nz) (_ : sgnvz = 1) (_ : sgnvx = 1) (_ : sgnvy = 1) (_ : sgntz = 1) (_ : sgntx = 1) (_ : sgnty = 1) (_ : i1 = (i - sgnvz)) (_ : j1 = (j - sgnvx)) (_ : k1 = (k - sgnvy)) :
    (0 ≤ i ∧ i < nz) ∧ (0 ≤ j ∧ j < nx) ∧ (0 ≤ k ∧ k < ny) ∧ (0 ≤ 0 ∧ 0 < 3) := ⟨Idx.up, Idx.up, Idx.up, by decide⟩

theorem fteik3d_sweep_L193c12_ctx1 (i i1 j j1 k k1 nx ny nz sgntx sgnty sgntz sgnvx sgnvy sgnvz : Int) (_ : 2 ≤ nz) (_ : 2 ≤ nx) (_ : 2 ≤ ny) (_ : 1 ≤ k) (_ : k < ny) (_ : j ≤ (nx - 2)) (_ : (-1) < j) (_ : 1 ≤ i) (_ : i < nz) (_ : sgnvz = 1) (_ : sgnvx = 0) (_ : sgnvy = 1) (_ : sgntz = 1) (_ : sgntx = -1) (_ : sgnty = 1) (_ : i1 = (i - sgnvz)) (_ : j1 = (j - sgnvx)) (_ : k1 = (k - sgnvy)) :
    (0 ≤ i ∧ i < nz) ∧ (0 ≤ j ∧ j < nx) ∧ (0 ≤ k ∧ k < ny) ∧ (0 ≤ 0 ∧ 0 < 3) := ⟨Idx.up, Idx.down, Idx.up, by decide⟩

theorem fteik3d_sweep_L193c12_ctx2 (i i1 j j1 k k1 nx ny nz sgntx sgnty sgntz sgnvx sgnvy sgnvz : Int) (_ : 2 ≤ nz) (_ : 2 ≤ nx) (_ : 2 ≤ ny) (_ : k ≤ (ny - 2)) (_ : (-1) < k) (_ : 1 ≤ j) (_ : j < nx) (_ : 1 ≤ i) (_ : i < nz) (_ : sgnvz = 1) (_ : sgnvx = 1) (_ : sgnvy = 0) (_ : sgntz = 1) (_ : sgntx = 1) (_ : sgnty = -1) (_ : i1 = (i - sgnvz)) (_ : j1 = (j - sgnvx)) (_ : k1 = (k - sgnvy)) :
    (0 ≤ i ∧ i < nz) ∧ (0 ≤ j ∧ j < nx) ∧ (0 ≤ k ∧ k < ny) ∧ (0 ≤ 0 ∧ 0 < 3) := ⟨Idx.up, Idx.up, Idx.down, by decide⟩

theorem fteik3d_sweep_L193c12_ctx3 (i i1 j j1 k k1 nx ny nz sgntx sgnty sgntz sgnvx sgnvy sgnvz : Int) (_ : 2 ≤ nz) (_ : 2 ≤ nx) (_ : 2 ≤ ny) (_ : k ≤ (ny - 2)) (_ : (-1) < k) (_ : j ≤ (nx - 2)) (_ : (-1) < j) (_ : 1 ≤ i) (_ : i < nz) (_ : sgnvz = 1) (_ : sgnvx = 0) (_ : sgnvy = 0) (_ : sgntz = 1) (_ : sgntx = -1) (_ : sgnty = -1) (_ : i1 = (i - sgnvz)) (_ : j1 = (j - sgnvx)) (_ : k1 = (k - sgnvy)) :
    (0 ≤ i ∧ i < nz) ∧ (0 ≤ j ∧ j < nx) ∧ (0 ≤ k ∧ k < ny) ∧ (0 ≤ 0 ∧ 0 < 3) := ⟨Idx.up, Idx.down, Idx.down, by decide⟩

theorem fteik3d_sweep_L193c12_ctx4 (i i1 j j1 k k1 nx ny nz sgntx sgnty sgntz sgnvx sgnvy sgnvz : Int) (_ : 2 ≤ nz) (_ : 2 ≤ nx) (_ : 2 ≤ ny) (_ : 1 ≤ k) (_ : k < ny) (_ : 1 ≤ j) (_ : j < nx) (_ : i ≤ (nz - 2)) (_ : (-1) < i) (_ : sgnvz = 0) (_ : sgnvx = 1) (_ : sgnvy = 1) (_ : sgntz = -1) (_ : sgntx = 1) (_ : sgnty = 1) (_ : i1 = (i - sgnvz)) (_ : j1 = (j - sgnvx)) (_ : k1 = (k - sgnvy)) :
    (0 ≤ i ∧ i < nz) ∧ (0 ≤ j ∧ j < nx) ∧ (0 ≤ k ∧ k < ny) ∧ (0 ≤ 0 ∧ 0 < 3) := ⟨Idx.down, Idx.up, Idx.up, by decide⟩

theorem fteik3d_sweep_L193c12_ctx5 (i i1 j j1 k k1 nx ny nz sgntx sgnty sgntz sgnvx sgnvy sgnvz : Int) (_ : 2 ≤ nz) (_ : 2 ≤ nx) (_ : 2 ≤ ny) (_ : 1 ≤ k) (_ : k < ny) (_ : j ≤ (nx - 2)) (_ : (-1) < j) (_ : i ≤ (nz - 2)) (_ : (-1) < i) (_ : sgnvz = 0) (_ : sgnvx = 0) (_ : sgnvy = 1) (_ : sgntz = -1) (_ : sgntx = -1) (_ : sgnty = 1) (_ : i1 = (i - sgnvz)) (_ : j1 = (j - sgnvx)) (_ : k1 = (k - sgnvy)) :
    (0 ≤ i ∧ i < nz) ∧ (0 ≤ j ∧ j < nx) ∧ (0 ≤ k ∧ k < ny) ∧ (0 ≤ 0 ∧ 0 < 3) := ⟨Idx.down, Idx.down, Idx.up, by decide⟩

theorem fteik3d_sweep_L193c12_ctx6 (i i1 j j1 k k1 nx ny nz sgntx sgnty sgntz sgnvx sgnvy sgnvz : Int) (_ : 2 ≤ nz) (_ : 2 ≤ nx) (_ : 2 ≤ ny) (_ : k ≤ (ny - 2)) (_ : (-1) < k) (_ : 1 ≤ j) (_ : j < nx) (_ : i ≤ (nz - 2)) (_ : (-1) < i) (_ : sgnvz = 0) (_ : sgnvx = 1) (_ : sgnvy = 0) (_ : sgntz = -1) (_ : sgntx = 1) (_ : sgnty = -1) (_ : i1 = (i - sgnvz)) (_ : j1 = (j - sgnvx)) (_ : k1 = (k - sgnvy)) :
    (0 ≤ i ∧ i < nz) ∧ (0 ≤ j ∧ j < nx) ∧ (0 ≤ k ∧ k < ny) ∧ (0 ≤ 0 ∧ 0 < 3) := ⟨Idx.down, Idx.up, Idx.down, by decide⟩

theorem fteik3d_sweep_L193c12_ctx7 (i i1 j j1 k k1 nx ny nz sgntx sgnty sgntz sgnvx sgnvy sgnvz : Int) (_ : 2 ≤ nz) (_ : 2 ≤ nx) (_ : 2 ≤ ny) (_ : k ≤ (ny - 2)) (_ : (-1) < k) (_ : j ≤ (nx - 2)) (_ : (-1) < j) (_ : i ≤ (nz - 2)) (_ : (-1) < i) (_ : sgnvz = 0) (_ : sgnvx = 0) (_ : sgnvy = 0) (_ : sgntz = -1) (_ : sgntx = -1) (_ : sgnty = -1) (_ : i1 = (i - sgnvz)) (_ : j1 = (j - sgnvx)) (_ : k1 = (k - sgnvy)) :
    (0 ≤ i ∧ i < nz) ∧ (0 ≤ j ∧ j < nx) ∧ (0 ≤ k ∧ k < ny) ∧ (0 ≤ 0 ∧ 0 < 3) := ⟨Idx.down, Idx.down, Idx.down, by decide⟩

theorem fteik3d_sweep_L194c12_ctx0 (i i1 j j1 k k1 nx ny nz sgntx sgnty sgntz sgnvx sgnvy sgnvz : Int) (_ : 2 ≤ nz) (_ : 2 ≤ nx) (_ : 2 ≤ ny) (_ : 1 ≤ k) (_ : k < ny) (_ : 1 ≤ j) (_ : j < nx) (_ : 1 ≤ i) (_ : i < nz) (_ : sgnvz = 1) (_ : sgnvx = 1) (_ : sgnvy = 1) (_ : sgntz = 1) (_ : sgntx = 1) (_ : sgnty = 1) (_ : i1 = (i - sgnvz)) (_ : j1 = (j - sgnvx)) (_ : k1 = (k - sgnvy)) :
    (0 ≤ i ∧ i < nz) ∧ (0 ≤ j ∧ j < nx) ∧ (0 ≤ k ∧ k < ny) ∧ (0 ≤ 1 ∧ 1 < 3) := ⟨Idx.up, Idx.up, Idx.up, by decide⟩

theorem fteik3d_sweep_L194c12_ctx1 (i i1 j j1 k k1 nx ny nz sgntx sgnty sgntz sgnvx sgnvy sgnvz : Int) (_ : 2 ≤ nz) (_ : 2 ≤ nx) (_ : 2 ≤ ny) (_ : 1 ≤ k) (_ : k < ny) (_ : j ≤ (nx - 2)) (_ : (-1) < j) (_ : 1 ≤ i) (_ : i < nz) (_ : sgnvz = 1) (_ : sgnvx = 0) (_ : sgnvy = 1) (_ : sgntz = 1) (_ : sgntx = -1) (_ : sgnty = 1) (_ : i1 = (i - sgnvz)) (_ : j1 = (j - sgnvx)) (_ : k1 = (k - sgnvy)) :
    (0 ≤ i ∧ i < nz) ∧ (0 ≤ j ∧ j < nx) ∧ (0 ≤ k ∧ k < ny) ∧ (0 ≤ 1 ∧ 1 < 3) := ⟨Idx.up, Idx.down, Idx.up, by decide⟩

theorem fteik3d_sweep_L194c12_ctx2 (i i1 j j1 k k1 nx ny nz sgntx sgnty sgntz sgnvx sgnvy sgnvz : Int) (_ : 2 ≤ nz) (_ : 2 ≤ nx) (_ : 2 ≤ ny) (_ : k ≤ (ny - 2)) (_ : (-1) < k) (_ : 1 ≤ j) (_ : j < nx) (_ : 1 ≤ i) (_ : i < nz) (_ : sgnvz = 1) (_ : sgnvx = 1) (_ : sgnvy = 0) (_ : sgntz = 1) (_ : sgntx = 1) (_ : sgnty = -1) (_ : i1 = (i - sgnvz)) (_ : j1 = (j - sgnvx)) (_ : k1 = (k - sgnvy)) :
    (0 ≤ i ∧ i < nz) ∧ (0 ≤ j ∧ j < nx) ∧ (0 ≤ k ∧ k < ny) ∧ (0 ≤ 1 ∧ 1 < 3) := ⟨Idx.up, Idx.up, Idx.down, by decide⟩

theorem fteik3d_sweep_L194c12_ctx3 (i i1 j j1 k k1 nx ny nz sgntx sgnty sgntz sgnvx sgnvy sgnvz : Int) (_ : 2 ≤ nz) (_ : 2 ≤ nx) (_ : 2 ≤ ny) (_ : k ≤ (ny - 2)) (_ : (-1) < k) (_ : j ≤ (nx - 2)) (_ : (-1) < j) (_ : 1 ≤ i) (_ : i < nz) (_ : sgnvz = 1) (_ : sgnvx = 0) (_ : sgnvy = 0) (_ : sgntz = 1) (_ : sgntx = -1) (_ : sgnty = -1) (_ : i1 = (i - sgnvz)) (_ : j1 = (j - sgnvx)) (_ : k1 = (k - sgnvy)) :
    (0 ≤ i ∧ i < nz) ∧ (0 ≤ j ∧ j < nx) ∧ (0 ≤ k ∧ k < ny) ∧ (0 ≤ 1 ∧ 1 < 3) := ⟨Idx.up, Idx.down, Idx.down, by decide⟩

theorem fteik3d_sweep_L194c12_ctx4 (i i1 j j1 k k1 nx ny nz sgntx sgnty sgntz sgnvx sgnvy sgnvz : Int) (_ : 2 ≤ nz) (_ : 2 ≤ nx) (_ : 2 ≤ ny) (_ : 1 ≤ k) (_ : k < ny) (_ : 1 ≤ j) (_ : j < nx) (_ : i ≤ (nz - 2)) (_ : (-1) < i) (_ : sgnvz = 0) (_ : sgnvx = 1) (_ : sgnvy = 1) (_ : sgntz = -1) (_ : sgntx = 1) (_ : sgnty = 1) (_ : i1 = (i - sgnvz)) (_ : j1 = (j - sgnvx)) (_ : k1 = (k - sgnvy)) :
    (0 ≤ i ∧ i < nz) ∧ (0 ≤ j ∧ j < nx) ∧ (0 ≤ k ∧ k < ny) ∧ (0 ≤ 1 ∧ 1 < 3) := ⟨Idx.down, Idx.up, Idx.up, by decide⟩

theorem fteik3d_sweep_L194c12_ctx5 (i i1 j j1 k k1 nx ny nz sgntx sgnty sgntz sgnvx sgnvy sgnvz : Int) (_ : 2 ≤ nz) (_ : 2 ≤ nx) (_ : 2 ≤ ny) (_ : 1 ≤ k) (_ : k < ny) (_ : j ≤ (nx - 2)) (_ : (-1) < j) (_ : i ≤ (nz - 2)) (_ : (-1) < i) (_ : sgnvz = 0) (_ : sgnvx = 0) (_ : sgnvy = 1) (_ : sgntz = -1) (_ : sgntx = -1) (_ : sgnty = 1) (_ : i1 = (i - sgnvz)) (_ : j1 = (j - sgnvx)) (_ : k1 = (k - sgnvy)) :
    (0 ≤ i ∧ i < nz) ∧ (0 ≤ j ∧ j < nx) ∧ (0 ≤ k ∧ k < ny) ∧ (0 ≤ 1 ∧ 1 < 3) := ⟨Idx.down, Idx.down, Idx.up, by decide⟩

theorem fteik3d_sweep_L194c12_ctx6 (i i1 j j1 k k1 nx ny nz sgntx sgnty sgntz sgnvx sgnvy sgnvz : Int) (_ : 2 ≤ nz) (_ : 2 ≤ nx) (_ : 2 ≤ ny) (_ : k ≤ (ny - 2)) (_ : (-1) < k) (_ : 1 ≤ j) (_ : j < nx) (_ : i ≤ (nz - 2)) (_ : (-1) < i) (_ : sgnvz = 0) (_ : sgnvx = 1) (_ : sgnvy = 0) (_ : sgntz = -1) (_ : sgntx = 1) (_ : sgnty = -1) (_ : i1 = (i - sgnvz)) (_ : j1 = (j - sgnvx)) (_ : k1 = (k - sgnvy)) :
    (0 ≤ i ∧ i < nz) ∧ (0 ≤ j ∧ j < nx) ∧ (0 ≤ k ∧ k < ny) ∧ (0 ≤ 1 ∧ 1 < 3) := ⟨Idx.down, Idx.up, Idx.down, by decide⟩

theorem fteik3d_sweep_L194c12_ctx7 (i i1 j j1 k k1 nx ny nz sgntx sgnty sgntz sgnvx sgnvy sgnvz : Int) (_ : 2 ≤ nz) (_ : 2 ≤ nx) (_ : 2 ≤ ny) (_ : k ≤ (ny - 2)) (_ : (-1) < k) (_ : j ≤ (nx - 2)) (_ : (-1) < j) (_ : i ≤ (nz - 2)) (_ : (-1) < i) (_ : sgnvz = 0) (_ : sgnvx = 0) (_ : sgnvy = 0) (_ : sgntz = -1) (_ : sgntx = -1) (_ : sgnty = -1) (_ : i1 = (i - sgnvz)) (_ : j1 = (j - sgnvx)) (_ : k1 = (k - sgnvy)) :
    (0 ≤ i ∧ i < nz) ∧ (0 ≤ j ∧ j < nx) ∧ (0 ≤ k ∧ k < ny) ∧ (0 ≤ 1 ∧ 1 < 3) := ⟨Idx.down, Idx.down, Idx.down, by decide⟩

theorem fteik3d_sweep_L195c12_ctx0 (i i1 j j1 k k1 nx ny nz sgntx sgnty sgntz sgnvx sgnvy sgnvz : Int) (_ : 2 ≤ nz) (_ : 2 ≤ nx) (_ : 2 ≤ ny) (_ : 1 ≤ k) (_ : k < ny) (_ : 1 ≤ j) (_ : j < nx) (_ : 1 ≤ i) (_ : i < nz) (_ : sgnvz = 1) (_ : sgnvx = 1) (_ : sgnvy = 1) (_ : sgntz = 1) (_ : sgntx = 1) (_ : sgnty = 1) (_ : i1 = (i - sgnvz)) (_ : j1 = (j - sgnvx)) (_ : k1 = (k - sgnvy)) :
    (0 ≤ i ∧ i < nz) ∧ (0 ≤ j ∧ j < nx) ∧ (0 ≤ k ∧ k < ny) ∧ (0 ≤ 2 ∧ 2 < 3) := ⟨Idx.up, Idx.up, Idx.up, by decide⟩

theorem fteik3d_sweep_L195c12_ctx1 (i i1 j j1 k k1 nx ny nz sgntx sgnty sgntz sgnvx sgnvy sgnvz : Int) (_ : 2 ≤ nz) (_ : 2 ≤ nx) (_ : 2 ≤ ny) (_ : 1 ≤ k) (_ : k < ny) (_ : j ≤ (nx - 2)) (_ : (-1) < j) (_ : 1 ≤ i) (_ : i < nz) (_ : sgnvz = 1) (_ : sgnvx = 0) (_ : sgnvy = 1) (_ : sgntz = 1) (_ : sgntx = -1) (_ : sgnty = 1) (_ : i1 = (i - sgnvz)) (_ : j1 = (j - sgnvx)) (_ : k1 = (k - sgnvy)) :
    (0 ≤ i ∧ i < nz) ∧ (0 ≤ j ∧ j < nx) ∧ (0 ≤ k ∧ k < ny) ∧ (0 ≤ 2 ∧ 2 < 3) := ⟨Idx.up, Idx.down, Idx.up, by decide⟩

theorem fteik3d_sweep_L195c12_ctx2 (i i1 j j1 k k1 nx ny nz sgntx sgnty sgntz sgnvx sgnvy sgnvz : Int) (_ : 2 ≤ nz) (_ : 2 ≤ nx) (_ : 2 ≤ ny) (_ : k ≤ (ny - 2)) (_ : (-1) < k) (_ : 1 ≤ j) (_ : j < nx) (_ : 1 ≤ i) (_ : i < nz) (_ : sgnvz = 1) (_ : sgnvx = 1) (_ : sgnvy = 0) (_ : sgntz = 1) (_ : sgntx = 1) (_ : sgnty = -1) (_ : i1 = (i - sgnvz)) (_ : j1 = (j - sgnvx)) (_ : k1 = (k - sgnvy)) :
    (0 ≤ i ∧ i < nz) ∧ (0 ≤ j ∧ j < nx) ∧ (0 ≤ k ∧ k < ny) ∧ (0 ≤ 2 ∧ 2 < 3) := ⟨Idx.up, Idx.up, Idx.down, by decide⟩

theorem fteik3d_sweep_L195c12_ctx3 (i i1 j j1 k k1 nx ny nz sgntx sgnty sgntz sgnvx sgnvy sgnvz : Int) (_ : 2 ≤ nz) (_ : 2 ≤ nx) (_ : 2 ≤ ny) (_ : k ≤ (ny - 2)) (_ : (-1) < k) (_ : j ≤ (nx - 2)) (_ : (-1) < j) (_ : 1 ≤ i) (_ : i < nz) (_ : sgnvz = 1) (_ : sgnvx = 0) (_ : sgnvy = 0) (_ : sgntz = 1) (_ : sgntx = -1) (_ : sgnty = -1) (_ : i1 = (i - sgnvz)) (_ : j1 = (j - sgnvx)) (_ : k1 = (k - sgnvy)) :
    (0 ≤ i ∧ i < nz) ∧ (0 ≤ j ∧ j < nx) ∧ (0 ≤ k ∧ k < ny) ∧ (0 ≤ 2 ∧ 2 < 3) := ⟨Idx.up, Idx.down, Idx.down, by decide⟩

theorem fteik3d_sweep_L195c12_ctx4 (i i1 j j1 k k1 nx ny nz sgntx sgnty sgntz sgnvx sgnvy sgnvz : Int) (_ : 2 ≤ nz) (_ : 2 ≤ nx) (_ : 2 ≤ ny) (_ : 1 ≤ k) (_ : k < ny) (_ : 1 ≤ j) (_ : j < nx) (_ : i ≤ (nz - 2)) (_ : (-1) < i) (_ : sgnvz = 0) (_ : sgnvx = 1) (_ : sgnvy = 1) (_ : sgntz = -1) (_ : sgntx = 1) (_ : sgnty = 1) (_ : i1 = (i - sgnvz)) (_ : j1 = (j - sgnvx)) (_ : k1 = (k - sgnvy)) :
    (0 ≤ i ∧ i < nz) ∧ (0 ≤ j ∧ j < nx) ∧ (0 ≤ k ∧ k < ny) ∧ (0 ≤ 2 ∧ 2 < 3) := ⟨Idx.down, Idx.up, Idx.up, by decide⟩

theorem fteik3d_sweep_L195c12_ctx5 (i i1 j j1 k k1 nx ny nz sgntx sgnty sgntz sgnvx sgnvy sgnvz : Int) (_ : 2 ≤ nz) (_ : 2 ≤ nx) (_ : 2 ≤ ny) (_ : 1 ≤ k) (_ : k < ny) (_ : j ≤ (nx - 2)) (_ : (-1) < j) (_ : i ≤ (nz - 2)) (_ : (-1) < i) (_ : sgnvz = 0) (_ : sgnvx = 0) (_ : sgnvy = 1) (_ : sgntz = -1) (_ : sgntx = -1) (_ : sgnty = 1) (_ : i1 = (i - sgnvz)) (_ : j1 = (j - sgnvx)) (_ : k1 = (k - sgnvy)) :
    (0 ≤ i ∧ i < nz) ∧ (0 ≤ j ∧ j < nx) ∧ (0 ≤ k ∧ k < ny) ∧ (0 ≤ 2 ∧ 2 < 3) := ⟨Idx.down, Idx.down, Idx.up, by decide⟩

theorem fteik3d_sweep_L195c12_ctx6 (i i1 j j1 k k1 nx ny nz sgntx sgnty sgntz sgnvx sgnvy sgnvz : Int) (_ : 2 ≤ nz) (_ : 2 ≤ nx) (_ : 2 ≤ ny) (_ : k ≤ (ny - 2)) (_ : (-1) < k) (_ : 1 ≤ j) (_ : j < nx) (_ : i ≤ (nz - 2)) (_ : (-1) < i) (_ : sgnvz = 0) (_ : sgnvx = 1) (_ : sgnvy = 0) (_ : sgntz = -1) (_ : sgntx = 1) (_ : sgnty = -1) (_ : i1 = (i - sgnvz)) (_ : j1 = (j - sgnvx)) (_ : k1 = (k - sgnvy)) :
    (0 ≤ i ∧ i < nz) ∧ (0 ≤ j ∧ j < nx) ∧ (0 ≤ k ∧ k < ny) ∧ (0 ≤ 2 ∧ 2 < 3) := ⟨Idx.down, Idx.up, Idx.down, by decide⟩

theorem fteik3d_sweep_L195c12_ctx7 (i i1 j j1 k k1 nx ny nz sgntx sgnty sgntz sgnvx sgnvy sgnvz : Int) (_ : 2 ≤ nz) (_ : 2 ≤ nx) (_ : 2 ≤ ny) (_ : k ≤ (ny - 2)) (_ : (-1) < k) (_ : j ≤ (nx - 2)) (_ : (-1) < j) (_ : i ≤ (nz - 2)) (_ : (-1) < i) (_ : sgnvz = 0) (_ : sgnvx = 0) (_ : sgnvy = 0) (_ : sgntz = -1) (_ : sgntx = -1) (_ : sgnty = -1) (_ : i1 = (i - sgnvz)) (_ : j1 = (j - sgnvx)) (_ : k1 = (k - sgnvy)) :
    (0 ≤ i ∧ i < nz) ∧ (0 ≤ j ∧ j < nx) ∧ (0 ≤ k ∧ k < ny) ∧ (0 ≤ 2 ∧ 2 < 3) := ⟨Idx.down, Idx.down, Idx.down, by decide⟩

theorem fteik3d_sweep_L198c12_ctx0 (i i1 j j1 k k1 nx ny nz sgntx sgnty sgntz sgnvx sgnvy sgnvz : Int) (_ : 2 ≤ nz) (_ : 2 ≤ nx) (_ : 2 ≤ ny) (_ : 1 ≤ k) (_ : k < ny) (_ : 1 ≤ j) (_ : j < nx) (_ : 1 ≤ i) (_ : i < nz) (_ : sgnvz = 1) (_ : sgnvx = 1) (_ : sgnvy = 1) (_ : sgntz = 1) (_ : sgntx = 1) (_ : sgnty = 1) (_ : i1 = (i - sgnvz)) (_ : j1 = (j - sgnvx)) (_ : k1 = (k - sgnvy)) :
    (0 ≤ i ∧ i < nz) ∧ (0 ≤ j ∧ j < nx) ∧ (0 ≤ k ∧ k < ny) ∧ (0 ≤ 0 ∧ 0 < 3) := ⟨Idx.up, Idx.up, Idx.up, by decide⟩

theorem fteik3d_sweep_L198c12_ctx1 (i i1 j j1 k k1 nx ny nz sgntx sgnty sgntz sgnvx sgnvy sgnvz : Int) (_ : 2 ≤ nz) (_ : 2 ≤ nx) (_ : 2 ≤ ny) (_ : 1 ≤ k) (_ : k < ny) (_ : j ≤ (nx - 2)) (_ : (-1) < j) (_ : 1 ≤ i) (_ : i < nz) (_ : sgnvz = 1) (_ : sgnvx = 0) (_ : sgnvy = 1) (_ : sgntz = 1) (_ : sgntx = -1) (_ : sgnty = 1) (_ : i1 = (i - sgnvz)) (_ : j1 = (j - sgnvx)) (_ : k1 = (k - sgnvy)) :
    (0 ≤ i ∧ i < nz) ∧ (0 ≤ j ∧ j < nx) ∧ (0 ≤ k ∧ k < ny) ∧ (0 ≤ 0 ∧ 0 < 3) := ⟨Idx.up, Idx.down, Idx.up, by decide⟩

theorem fteik3d_sweep_L198c12_ctx2 (i i1 j j1 k k1 nx ny nz sgntx sgnty sgntz sgnvx sgnvy sgnvz : Int) (_ : 2 ≤ nz) (_ : 2 ≤ nx) (_ : 2 ≤ ny) (_ : k ≤ (ny - 2)) (_ : (-1) < k) (_ : 1 ≤ j) (_ : j < nx) (_ : 1 ≤ i) (_ : i < nz) (_ : sgnvz = 1) (_ : sgnvx = 1) (_ : sgnvy = 0) (_ : sgntz = 1) (_ : sgntx = 1) (_ : sgnty = -1) (_ : i1 = (i - sgnvz)) (_ : j1 = (j - sgnvx)) (_ : k1 = (k - sgnvy)) :
    (0 ≤ i ∧ i < nz) ∧ (0 ≤ j ∧ j < nx) ∧ (0 ≤ k ∧ k < ny) ∧ (0 ≤ 0 ∧ 0 < 3) := ⟨Idx.up, Idx.up, Idx.down, by decide⟩

theorem fteik3d_sweep_L198c12_ctx3 (i i1 j j1 k k1 nx ny nz sgntx sgnty sgntz sgnvx sgnvy sgnvz : Int) (_ : 2 ≤ nz) (_ : 2 ≤ nx) (_ : 2 ≤ ny) (_ : k ≤ (ny - 2)) (_ : (-1) < k) (_ : j ≤ (nx - 2)) (_ : (-1) < j) (_ : 1 ≤ i) (_ : i < nz) (_ : sgnvz = 1) (_ : sgnvx = 0) (_ : sgnvy = 0) (_ : sgntz = 1) (_ : sgntx = -1) (_ : sgnty = -1) (_ : i1 = (i - sgnvz)) (_ : j1 = (j - sgnvx)) (_ : k1 = (k - sgnvy)) :
    (0 ≤ i ∧ i < nz) ∧ (0 ≤ j ∧ j < nx) ∧ (0 ≤ k ∧ k < ny) ∧ (0 ≤ 0 ∧ 0 < 3) := ⟨Idx.up, Idx.down, Idx.down, by decide⟩

theorem fteik3d_sweep_L198c12_ctx4 (i i1 j j1 k k1 nx ny nz sgntx sgnty sgntz sgnvx sgnvy sgnvz : Int) (_ : 2 ≤ nz) (_ : 2 ≤ nx) (_ : 2 ≤ ny) (_ : 1 ≤ k) (_ : k < ny) (_ : 1 ≤ j) (_ : j < nx) (_ : i ≤ (nz - 2)) (_ : (-1) < i) (_ : sgnvz = 0) (_ : sgnvx = 1) (_ : sgnvy = 1) (_ : sgntz = -1) (_ : sgntx = 1) (_ : sgnty = 1) (_ : i1 = (i - sgnvz)) (_ : j1 = (j - sgnvx)) (_ : k1 = (k - sgnvy)) :
    (0 ≤ i ∧ i < nz) ∧ (0 ≤ j ∧ j < nx) ∧ (0 ≤ k ∧ k < ny) ∧ (0 ≤ 0 ∧ 0 < 3) := ⟨Idx.down, Idx.up, Idx.up, by decide⟩

theorem fteik3d_sweep_L198c12_ctx5 (i i1 j j1 k k1 nx ny nz sgntx sgnty sgntz sgnvx sgnvy sgnvz : Int) (_ : 2 ≤ nz) (_ : 2 ≤ nx) (_ : 2 ≤ ny) (_ : 1 ≤ k) (_ : k < ny) (_ : j ≤ (nx - 2)) (_ : (-1) < j) (_ : i ≤ (nz - 2)) (_ : (-1) < i) (_ : sgnvz = 0) (_ : sgnvx = 0) (_ : sgnvy = 1) (_ : sgntz = -1) (_ : sgntx = -1) (_ : sgnty = 1) (_ : i1 = (i - sgnvz)) (_ : j1 = (j - sgnvx)) (_ : k1 = (k - sgnvy)) :
    (0 ≤ i ∧ i < nz) ∧ (0 ≤ j ∧ j < nx) ∧ (0 ≤ k ∧ k < ny) ∧ (0 ≤ 0 ∧ 0 < 3) := ⟨Idx.down, Idx.down, Idx.up, by decide⟩

theorem fteik3d_sweep_L198c12_ctx6 (i i1 j j1 k k1 nx ny nz sgntx sgnty sgntz sgnvx sgnvy sgnvz : Int) (_ : 2 ≤ nz) (_ : 2 ≤ nx) (_ : 2 ≤ ny) (_ : k ≤ (ny - 2)) (_ : (-1) < k) (_ : 1 ≤ j) (_ : j < nx) (_ : i ≤ (nz - 2)) (_ : (-1) < i) (_ : sgnvz = 0) (_ : sgnvx = 1) (_ : sgnvy = 0) (_ : sgntz = -1) (_ : sgntx = 1) (_ : sgnty = -1) (_ : i1 = (i - sgnvz)) (_ : j1 = (j - sgnvx)) (_ : k1 = (k - sgnvy)) :
    (0 ≤ i ∧ i < nz) ∧ (0 ≤ j ∧ j < nx) ∧ (0 ≤ k ∧ k < ny) ∧ (0 ≤ 0 ∧ 0 < 3) := ⟨Idx.down, Idx.up, Idx.down, by decide⟩

theorem fteik3d_sweep_L198c12_ctx7 (i i1 j j1 k k1 nx ny nz sgntx sgnty sgntz sgnvx sgnvy sgnvz : Int) (_ : 2 ≤ nz) (_ : 2 ≤ nx) (_ : 2 ≤ ny) (_ : k ≤ (ny - 2)) (_ : (-1) < k) (_ : j ≤ (nx - 2)) (_ : (-1) < j) (_ : i ≤ (nz - 2)) (_ : (-1) < i) (_ : sgnvz = 0) (_ : sgnvx = 0) (_ : sgnvy = 0) (_ : sgntz = -1) (_ : sgntx = -1) (_ : sgnty = -1) (_ : i1 = (i - sgnvz)) (_ : j1 = (j - sgnvx)) (_ : k1 = (k - sgnvy)) :
    (0 ≤ i ∧ i < nz) ∧ (0 ≤ j ∧ j < nx) ∧ (0 ≤ k ∧ k < ny) ∧ (0 ≤ 0 ∧ 0 < 3) := ⟨Idx.down, Idx.down, Idx.down, by decide⟩

theorem fteik3d_sweep_L199c12_ctx0 (i i1 j j1 k k1 nx ny nz sgntx sgnty sgntz sgnvx sgnvy sgnvz : Int) (_ : 2 ≤ nz) (_ : 2 ≤ nx) (_ : 2 ≤ ny) (_ : 1 ≤ k) (_ : k < ny) (_ : 1 ≤ j) (_ : j < nx) (_ : 1 ≤ i) (_ : i < nz) (_ : sgnvz = 1) (_ : sgnvx = 1) (_ : sgnvy = 1) (_ : sgntz = 1) (_ : sgntx = 1) (_ : sgnty = 1) (_ : i1 = (i - sgnvz)) (_ : j1 = (j - sgnvx)) (_ : k1 = (k - sgnvy)) :
    (0 ≤ i ∧ i < nz) ∧ (0 ≤ j ∧ j < nx) ∧ (0 ≤ k ∧ k < ny) ∧ (0 ≤ 1 ∧ 1 < 3) := ⟨Idx.up, Idx.up, Idx.up, by decide⟩

theorem fteik3d_sweep_L199c12_ctx1 (i i1 j j1 k k1 nx ny nz sgntx sgnty sgntz sgnvx sgnvy sgnvz : Int) (_ : 2 ≤ nz) (_ : 2 ≤ nx) (_ : 2 ≤ ny) (_ : 1 ≤ k) (_ : k < ny) (_ : j ≤ (nx - 2)) (_ : (-1) < j) (_ : 1 ≤ i) (_ : i < nz) (_ : sgnvz = 1) (_ : sgnvx = 0) (_ : sgnvy = 1) (_ : sgntz = 1) (_ : sgntx = -1) (_ : sgnty = 1) (_ : i1 = (i - sgnvz)) (_ : j1 = (j - sgnvx)) (_ : k1 = (k - sgnvy)) :
    (0 ≤ i ∧ i < nz) ∧ (0 ≤ j ∧ j < nx) ∧ (0 ≤ k ∧ k < ny) ∧ (0 ≤ 1 ∧ 1 < 3) := ⟨Idx.up, Idx.down, Idx.up, by decide⟩

theorem fteik3d_sweep_L199c12_ctx2 (i i1 j j1 k k1 nx ny nz sgntx sgnty sgntz sgnvx sgnvy sgnvz : Int) (_ : 2 ≤ nz) (_ : 2 ≤ nx) (_ : 2 ≤ ny) (_ : k ≤ (ny - 2)) (_ : (-1) < k) (_ : 1 ≤ j) (_ : j < nx) (_ : 1 ≤ i) (_ : i < nz) (_ : sgnvz = 1) (_ : sgnvx = 1) (_ : sgnvy = 0) (_ : sgntz = 1) (_ : sgntx = 1) (_ : sgnty = -1) (_ : i1 = (i - sgnvz)) (_ : j1 = (j - sgnvx)) (_ : k1 = (k - sgnvy)) :
    (0 ≤ i ∧ i < nz) ∧ (0 ≤ j ∧ j < nx) ∧ (0 ≤ k ∧ k < ny) ∧ (0 ≤ 1 ∧ 1 < 3) := ⟨Idx.up, Idx.up, Idx.down, by decide⟩

theorem fteik3d_sweep_L199c12_ctx3 (i i1 j j1 k k1 nx ny nz sgntx sgnty sgntz sgnvx sgnvy sgnvz : Int) (_ : 2 ≤ nz) (_ : 2 ≤ nx) (_ : 2 ≤ ny) (_ : k ≤ (ny - 2)) (_ : (-1) < k) (_ : j ≤ (nx - 2)) (_ : (-1) < j) (_ : 1 ≤ i) (_ : i < nz) (_ : sgnvz = 1) (_ : sgnvx = 0) (_ : sgnvy = 0) (_ : sgntz = 1) (_ : sgntx = -1) (_ : sgnty = -1) (_ : i1 = (i - sgnvz)) (_ : j1 = (j - sgnvx)) (_ : k1 = (k - sgnvy)) :
    (0 ≤ i ∧ i < nz) ∧ (0 ≤ j ∧ j < nx) ∧ (0 ≤ k ∧ k < ny) ∧ (0 ≤ 1 ∧ 1 < 3) := ⟨Idx.up, Idx.down, Idx.down, by decide⟩

theorem fteik3d_sweep_L199c12_ctx4 (i i1 j j1 k k1 nx ny nz sgntx sgnty sgntz sgnvx sgnvy sgnvz : Int) (_ : 2 ≤ nz) (_ : 2 ≤ nx) (_ : 2 ≤ ny) (_ : 1 ≤ k) (_ : k < ny) (_ : 1 ≤ j) (_ : j < nx) (_ : i ≤ (nz - 2)) (_ : (-1) < i) (_ : sgnvz = 0) (_ : sgnvx = 1) (_ : sgnvy = 1) (_ : sgntz = -1) (_ : sgntx = 1) (_ : sgnty = 1) (_ : i1 = (i - sgnvz)) (_ : j1 = (j - sgnvx)) (_ : k1 = (k - sgnvy)) :
    (0 ≤ i ∧ i < nz) ∧ (0 ≤ j ∧ j < nx) ∧ (0 ≤ k ∧ k < ny) ∧ (0 ≤ 1 ∧ 1 < 3) := ⟨Idx.down, Idx.up, Idx.up, by decide⟩

theorem fteik3d_sweep_L199c12_ctx5 (i i1 j j1 k k1 nx ny nz sgntx sgnty sgntz sgnvx sgnvy sgnvz : Int) (_ : 2 ≤ nz) (_ : 2 ≤ nx) (_ : 2 ≤ ny) (_ : 1 ≤ k) (_ : k < ny) (_ : j ≤ (nx - 2)) (_ : (-1) < j) (_ : i ≤ (nz - 2)) (_ : (-1) < i) (_ : sgnvz = 0) (_ : sgnvx = 0) (_ : sgnvy = 1) (_ : sgntz = -1) (_ : sgntx = -1) (_ : sgnty = 1) (_ : i1 = (i - sgnvz)) (_ : j1 = (j - sgnvx)) (_ : k1 = (k - sgnvy)) :
    (0 ≤ i ∧ i < nz) ∧ (0 ≤ j ∧ j < nx) ∧ (0 ≤ k ∧ k < ny) ∧ (0 ≤ 1 ∧ 1 < 3) := ⟨Idx.down, Idx.down, Idx.up, by decide⟩

theorem fteik3d_sweep_L199c12_ctx6 (i i1 j j1 k k1 nx ny nz sgntx sgnty sgntz sgnvx sgnvy sgnvz : Int) (_ : 2 ≤ nz) (_ : 2 ≤ nx) (_ : 2 ≤ ny) (_ : k ≤ (ny - 2)) (_ : (-1) < k) (_ : 1 ≤ j) (_ : j < nx) (_ : i ≤ (nz - 2)) (_ : (-1) < i) (_ : sgnvz = 0) (_ : sgnvx = 1) (_ : sgnvy = 0) (_ : sgntz = -1) (_ : sgntx = 1) (_ : sgnty = -1) (_ : i1 = (i - sgnvz)) (_ : j1 = (j - sgnvx)) (_ : k1 = (k - sgnvy)) :
    (0 ≤ i ∧ i < nz) ∧ (0 ≤ j ∧ j < nx) ∧ (0 ≤ k ∧ k < ny) ∧ (0 ≤ 1 ∧ 1 < 3) := ⟨Idx.down, Idx.up, Idx.down, by decide⟩

theorem fteik3d_sweep_L199c12_ctx7 (i i1 j j1 k k1 nx ny nz sgntx sgnty sgntz sgnvx sgnvy sgnvz : Int) (_ : 2 ≤ nz) (_ : 2 ≤ nx) (_ : 2 ≤ ny) (_ : k ≤ (ny - 2)) (_ : (-1) < k) (_ : j ≤ (nx - 2)) (_ : (-1) < j) (_ : i ≤ (nz - 2)) (_ : (-1) < i) (_ : sgnvz = 0) (_ : sgnvx = 0) (_ : sgnvy = 0) (_ : sgntz = -1) (_ : sgntx = -1) (_ : sgnty = -1) (_ : i1 = (i - sgnvz)) (_ : j1 = (j - sgnvx)) (_ : k1 = (k - sgnvy)) :
    (0 ≤ i ∧ i < nz) ∧ (0 ≤ j ∧ j < nx) ∧ (0 ≤ k ∧ k < ny) ∧ (0 ≤ 1 ∧ 1 < 3) := ⟨Idx.down, Idx.down, Idx.down, by decide⟩

theorem fteik3d_sweep_L200c12_ctx0 (i i1 j j1 k k1 nx ny nz sgntx sgnty sgntz sgnvx sgnvy sgnvz : Int) (_ : 2 ≤ nz) (_ : 2 ≤ nx) (_ : 2 ≤ ny) (_ : 1 ≤ k) (_ : k < ny) (_ : 1 ≤ j) (_ : j < nx) (_ : 1 ≤ i) (_ : i < nz) (_ : sgnvz = 1) (_ : sgnvx = 1) (_ : sgnvy = 1) (_ : sgntz = 1) (_ : sgntx = 1) (_ : sgnty = 1) (_ : i1 = (i - sgnvz)) (_ : j1 = (j - sgnvx)) (_ : k1 = (k - sgnvy)) :
    (0 ≤ i ∧ i < nz) ∧ (0 ≤ j ∧ j < nx) ∧ (0 ≤ k ∧ k < ny) ∧ (0 ≤ 2 ∧ 2 < 3) := ⟨Idx.up, Idx.up, Idx.up, by decide⟩

theorem fteik3d_sweep_L200c12_ctx1 (i i1 j j1 k k1 nx ny nz sgntx sgnty sgntz sgnvx sgnvy sgnvz : Int) (_ : 2 ≤ nz) (_ : 2 ≤ nx) (_ : 2 ≤ ny) (_ : 1 ≤ k) (_ : k < ny) (_ : j ≤ (nx - 2)) (_ : (-1) < j) (_ : 1 ≤ i) (_ : i < nz) (_ : sgnvz = 1) (_ : sgnvx = 0) (_ : sgnvy = 1) (_ : sgntz = 1) (_ : sgntx = -1) (_ : sgnty = 1) (_ : i1 = (i - sgnvz)) (_ : j1 = (j - sgnvx)) (_ : k1 = (k - sgnvy)) :
    (0 ≤ i ∧ i < nz) ∧ (0 ≤ j ∧ j < nx) ∧ (0 ≤ k ∧ k < ny) ∧ (0 ≤ 2 ∧ 2 < 3) := ⟨Idx.up, Idx.down, Idx.up, by decide⟩

theorem fteik3d_sweep_L200c12_ctx2 (i i1 j j1 k k1 nx ny nz sgntx sgnty sgntz sgnvx sgnvy sgnvz : Int) (_ : 2 ≤ nz) (_ : 2 ≤ nx) (_ : 2 ≤ ny) (_ : k ≤ (ny - 2)) (_ : (-1) < k) (_ : 1 ≤ j) (_ : j < nx) (_ : 1 ≤ i) (_ : i < nz) (_ : sgnvz = 1) (_ : sgnvx = 1) (_ : sgnvy = 0) (_ : sgntz = 1) (_ : sgntx = 1) (_ : sgnty = -1) (_ : i1 = (i - sgnvz)) (_ : j1 = (j - sgnvx)) (_ : k1 = (k - sgnvy)) :
    (0 ≤ i ∧ i < nz) ∧ (0 ≤ j ∧ j < nx) ∧ (0 ≤ k ∧ k < ny) ∧ (0 ≤ 2 ∧ 2 < 3) := ⟨Idx.up, Idx.up, Idx.down, by decide⟩

theorem fteik3d_sweep_L200c12_ctx3 (i i1 j j1 k k1 nx ny nz sgntx sgnty sgntz sgnvx sgnvy sgnvz : Int) (_ : 2 ≤ nz) (_ : 2 ≤ nx) (_ : 2 ≤ ny) (_ : k ≤ (ny - 2)) (_ : (-1) < k) (_ : j ≤ (nx - 2)) (_ : (-1) < j) (_ : 1 ≤ i) (_ : i < nz) (_ : sgnvz = 1) (_ : sgnvx = 0) (_ : sgnvy = 0) (_ : sgntz = 1) (_ : sgntx = -1) (_ : sgnty = -1) (_ : i1 = (i - sgnvz)) (_ : j1 = (j - sgnvx)) (_ : k1 = (k - sgnvy)) :
    (0 ≤ i ∧ i < nz) ∧ (0 ≤ j ∧ j < nx) ∧ (0 ≤ k ∧ k < ny) ∧ (0 ≤ 2 ∧ 2 < 3) := ⟨Idx.up, Idx.down, Idx.down, by decide⟩

theorem fteik3d_sweep_L200c12_ctx4 (i i1 j j1 k k1 nx ny nz sgntx sgnty sgntz sgnvx sgnvy sgnvz : Int) (_ : 2 ≤ nz) (_ : 2 ≤ nx) (_ : 2 ≤ ny) (_ : 1 ≤ k) (_ : k < ny) (_ : 1 ≤ j) (_ : j < nx) (_ : i ≤ (nz - 2)) (_ : (-1) < i) (_ : sgnvz = 0) (_ : sgnvx = 1) (_ : sgnvy = 1) (_ : sgntz = -1) (_ : sgntx = 1) (_ : sgnty = 1) (_ : i1 = (i - sgnvz)) (_ : j1 = (j - sgnvx)) (_ : k1 = (k - sgnvy)) :
    (0 ≤ i ∧ i < nz) ∧ (0 ≤ j ∧ j < nx) ∧ (0 ≤ k ∧ k < ny) ∧ (0 ≤ 2 ∧ 2 < 3) := ⟨Idx.down, Idx.up, Idx.up, by decide⟩

theorem fteik3d_sweep_L200c12_ctx5 (i i1 j j1 k k1 nx ny nz sgntx sgnty sgntz sgnvx sgnvy sgnvz : Int) (_ : 2 ≤ nz) (_ : 2 ≤ nx) (_ : 2 ≤ ny) (_ : 1 ≤ k) (_ : k < ny) (_ : j ≤ (nx - 2)) (_ : (-1) < j) (_ : i ≤ (nz - 2)) (_ : (-1) < i) (_ : sgnvz = 0) (_ : sgnvx = 0) (_ : sgnvy = 1) (_ : sgntz = -1) (_ : sgntx = -1) (_ : sgnty = 1) (_ : i1 = (i - sgnvz)) (_ : j1 = (j - sgnvx)) (_ : k1 = (k - sgnvy)) :
    (0 ≤ i ∧ i < nz) ∧ (0 ≤ j ∧ j < nx) ∧ (0 ≤ k ∧ k < ny) ∧ (0 ≤ 2 ∧ 2 < 3) := ⟨Idx.down, Idx.down, Idx.up, by decide⟩

theorem fteik3d_sweep_L200c12_ctx6 (i i1 j j1 k k1 nx ny nz sgntx sgnty sgntz sgnvx sgnvy sgnvz : Int) (_ : 2 ≤ nz) (_ : 2 ≤ nx) (_ : 2 ≤ ny) (_ : k ≤ (ny - 2)) (_ : (-1) < k) (_ : 1 ≤ j) (_ : j < nx) (_ : i ≤ (nz - 2)) (_ : (-1) < i) (_ : sgnvz = 0) (_ : sgnvx = 1) (_ : sgnvy = 0) (_ : sgntz = -1) (_ : sgntx = 1) (_ : sgnty = -1) (_ : i1 = (i - sgnvz)) (_ : j1 = (j - sgnvx)) (_ : k1 = (k - sgnvy)) :
    (0 ≤ i ∧ i < nz) ∧ (0 ≤ j ∧ j < nx) ∧ (0 ≤ k ∧ k < ny) ∧ (0 ≤ 2 ∧ 2 < 3) := ⟨Idx.down, Idx.up, Idx.down, by decide⟩

theorem fteik3d_sweep_L200c12_ctx7 (i i1 j j1 k k1 nx ny nz sgntx sgnty sgntz sgnvx sgnvy sgnvz : Int) (_ : 2 ≤ nz) (_ : 2 ≤ nx) (_ : 2 ≤ ny) (_ : k ≤ (ny - 2)) (_ : (-1) < k) (_ : j ≤ (nx - 2)) (_ : (-1) < j) (_ : i ≤ (nz - 2)) (_ : (-1) < i) (_ : sgnvz = 0) (_ : sgnvx = 0) (_ : sgnvy = 0) (_ : sgntz = -1) (_ : sgntx = -1) (_ : sgnty = -1) (_ : i1 = (i - sgnvz)) (_ : j1 = (j - sgnvx)) (_ : k1 = (k - sgnvy)) :
    (0 ≤ i ∧ i < nz) ∧ (0 ≤ j ∧ j < nx) ∧ (0 ≤ k ∧ k < ny) ∧ (0 ≤ 2 ∧ 2 < 3) := ⟨Idx.down, Idx.down, Idx.down, by decide⟩

theorem fteik2d_fteik2d_L313c12_ctx0 (i int_xsa int_zsa j nxc nzc sgntx sgntz xsi zsi : Int) (_ : 1 ≤ nzc) (_ : 1 ≤ nxc) (_ : 0 ≤ int_zsa) (_ : int_zsa ≤ nzc) (_ : 0 ≤ int_xsa) (_ : int_xsa ≤ nxc) (_ : -1 ≤ sgntz) (_ : sgntz ≤ 1) (_ : -1 ≤ sgntx) (_ : sgntx ≤ 1) (_ : sgntz = 1 → 1 ≤ i) (_ : sgntz = -1 → i ≤ nzc - 1) (_ : sgntx = 1 → 1 ≤ j) (_ : sgntx = -1 → j ≤ nxc - 1) (_ : zsi = (min int_zsa (nzc - 1))) (_ : xsi = (min int_xsa (nxc - 1))) :
    (0 ≤ zsi ∧ zsi < nzc) ∧ (0 ≤ xsi ∧ xsi < nxc) := ⟨Idx.srcCell, Idx.srcCell⟩

theorem fteik2d_fteik2d_L371c12_it0_ctx0 (i iflag int_xsa int_xsa_v9 int_zsa int_zsa_v10 j nxc nzc sgntx sgntz xsi zsi : Int) (_ : 1 ≤ nzc) (_ : 1 ≤ nxc) (_ : 0 ≤ int_zsa) (_ : int_zsa ≤ nzc) (_ : 0 ≤ int_xsa) (_ : int_xsa ≤ nxc) (_ : -1 ≤ sgntz) (_ : sgntz ≤ 1) (_ : -1 ≤ sgntx) (_ : sgntx ≤ 1) (_ : sgntz = 1 → 1 ≤ i) (_ : sgntz = -1 → i ≤ nzc - 1) (_ : sgntx = 1 → 1 ≤ j) (_ : sgntx = -1 → j ≤ nxc - 1) (_ : zsi = (min int_zsa_v10 (nzc - 1))) (_ : xsi = (min int_xsa_v9 (nxc - 1))) (_ : 0 ≤ int_xsa_v9) (_ : int_xsa_v9 ≤ nxc) (_ : 0 ≤ int_zsa_v10) (_ : int_zsa_v10 ≤ nzc) (_ : iflag = 2) :
    (0 ≤ zsi ∧ zsi < (nzc + 1)) ∧ (0 ≤ xsi ∧ xsi < (nxc + 1)) := ⟨Idx.srcCell_node, Idx.srcCell_node⟩

theorem fteik2d_fteik2d_L374c16_it0_ctx0 (i iflag int_xsa int_xsa_v9 int_zsa int_zsa_v10 j nxc nzc sgntx sgntz xsi zsi : Int) (_ : 1 ≤ nzc) (_ : 1 ≤ nxc) (_ : 0 ≤ int_zsa) (_ : int_zsa ≤ nzc) (_ : 0 ≤ int_xsa) (_ : int_xsa ≤ nxc) (_ : -1 ≤ sgntz) (_ : sgntz ≤ 1) (_ : -1 ≤ sgntx) (_ : sgntx ≤ 1) (_ : sgntz = 1 → 1 ≤ i) (_ : sgntz = -1 → i ≤ nzc - 1) (_ : sgntx = 1 → 1 ≤ j) (_ : sgntx = -1 → j ≤ nxc - 1) (_ : zsi = (min int_zsa_v10 (nzc - 1))) (_ : xsi = (min int_xsa_v9 (nxc - 1))) (_ : 0 ≤ int_xsa_v9) (_ : int_xsa_v9 ≤ nxc) (_ : 0 ≤ int_zsa_v10) (_ : int_zsa_v10 ≤ nzc) (_ : iflag = 2) :
    (0 ≤ zsi ∧ zsi < (nzc + 1)) ∧ (0 ≤ xsi ∧ xsi < (nxc + 1)) ∧ (0 ≤ 0 ∧ 0 < 2) := ⟨Idx.srcCell_node, Idx.srcCell_node, by decide⟩

theorem fteik2d_fteik2d_L375c16_it0_ctx0 (i iflag int_xsa int_xsa_v9 int_zsa int_zsa_v10 j nxc nzc sgntx sgntz xsi zsi : Int) (_ : 1 ≤ nzc) (_ : 1 ≤ nxc) (_ : 0 ≤ int_zsa) (_ : int_zsa ≤ nzc) (_ : 0 ≤ int_xsa) (_ : int_xsa ≤ nxc) (_ : -1 ≤ sgntz) (_ : sgntz ≤ 1) (_ : -1 ≤ sgntx) (_ : sgntx ≤ 1) (_ : sgntz = 1 → 1 ≤ i) (_ : sgntz = -1 → i ≤ nzc - 1) (_ : sgntx = 1 → 1 ≤ j) (_ : sgntx = -1 → j ≤ nxc - 1) (_ : zsi = (min int_zsa_v10 (nzc - 1))) (_ : xsi = (min int_xsa_v9 (nxc - 1))) (_ : 0 ≤ int_xsa_v9) (_ : int_xsa_v9 ≤ nxc) (_ : 0 ≤ int_zsa_v10) (_ : int_zsa_v10 ≤ nzc) (_ : iflag = 2) :
    (0 ≤ zsi ∧ zsi < (nzc + 1)) ∧ (0 ≤ xsi ∧ xsi < (nxc + 1)) ∧ (0 ≤ 1 ∧ 1 < 2) := ⟨Idx.srcCell_node, Idx.srcCell_node, by decide⟩

theorem fteik2d_fteik2d_L371c12_it1_ctx0 (i iflag int_xsa int_xsa_v9 int_zsa int_zsa_v10 j nxc nzc sgntx sgntz xsi zsi : Int) (_ : 1 ≤ nzc) (_ : 1 ≤ nxc) (_ : 0 ≤ int_zsa) (_ : int_zsa ≤ nzc) (_ : 0 ≤ int_xsa) (_ : int_xsa ≤ nxc) (_ : -1 ≤ sgntz) (_ : sgntz ≤ 1) (_ : -1 ≤ sgntx) (_ : sgntx ≤ 1) (_ : sgntz = 1 → 1 ≤ i) (_ : sgntz = -1 → i ≤ nzc - 1) (_ : sgntx = 1 → 1 ≤ j) (_ : sgntx = -1 → j ≤ nxc - 1) (_ : zsi = (min int_zsa_v10 (nzc - 1))) (_ : xsi = (min int_xsa_v9 (nxc - 1))) (_ : 0 ≤ int_xsa_v9) (_ : int_xsa_v9 ≤ nxc) (_ : 0 ≤ int_zsa_v10) (_ : int_zsa_v10 ≤ nzc) (_ : iflag = 2) :
    (0 ≤ (zsi + 1) ∧ (zsi + 1) < (nzc + 1)) ∧ (0 ≤ xsi ∧ xsi < (nxc + 1)) := ⟨Idx.srcCell_succ, Idx.srcCell_node⟩

theorem fteik2d_fteik2d_L374c16_it1_ctx0 (i iflag int_xsa int_xsa_v9 int_zsa int_zsa_v10 j nxc nzc sgntx sgntz xsi zsi : Int) (_ : 1 ≤ nzc) (_ : 1 ≤ nxc) (_ : 0 ≤ int_zsa) (_ : int_zsa ≤ nzc) (_ : 0 ≤ int_xsa) (_ : int_xsa ≤ nxc) (_ : -1 ≤ sgntz) (_ : sgntz ≤ 1) (_ : -1 ≤ sgntx) (_ : sgntx ≤ 1) (_ : sgntz = 1 → 1 ≤ i) (_ : sgntz = -1 → i ≤ nzc - 1) (_ : sgntx = 1 → 1 ≤ j) (_ : sgntx = -1 → j ≤ nxc - 1) (_ : zsi = (min int_zsa_v10 (nzc - 1))) (_ : xsi = (min int_xsa_v9 (nxc - 1))) (_ : 0 ≤ int_xsa_v9) (_ : int_xsa_v9 ≤ nxc) (_ : 0 ≤ int_zsa_v10) (_ : int_zsa_v10 ≤ nzc) (_ : iflag = 2) :
    (0 ≤ (zsi + 1) ∧ (zsi + 1) < (nzc + 1)) ∧ (0 ≤ xsi ∧ xsi < (nxc + 1)) ∧ (0 ≤ 0 ∧ 0 < 2) := ⟨Idx.srcCell_succ, Idx.srcCell_node, by decide⟩

theorem fteik2d_fteik2d_L375c16_it1_ctx0 (i iflag int_xsa int_xsa_v9 int_zsa int_zsa_v10 j nxc nzc sgntx sgntz xsi zsi : Int) (_ : 1 ≤ nzc) (_ : 1 ≤ nxc) (_ : 0 ≤ int_zsa) (_ : int_zsa ≤ nzc) (_ : 0 ≤ int_xsa) (_ : int_xsa ≤ nxc) (_ : -1 ≤ sgntz) (_ : sgntz ≤ 1) (_ : -1 ≤ sgntx) (_ : sgntx ≤ 1) (_ : sgntz = 1 → 1 ≤ i) (_ : sgntz = -1 → i ≤ nzc - 1) (_ : sgntx = 1 → 1 ≤ j) (_ : sgntx = -1 → j ≤ nxc - 1) (_ : zsi = (min int_zsa_v10 (nzc - 1))) (_ : xsi = (min int_xsa_v9 (nxc - 1))) (_ : 0 ≤ int_xsa_v9) (_ : int_xsa_v9 ≤ nxc) (_ : 0 ≤ int_zsa_v10) (_ : int_zsa_v10 ≤ nzc) (_ : iflag = 2) :
    (0 ≤ (zsi + 1) ∧ (zsi + 1) < (nzc + 1)) ∧ (0 ≤ xsi ∧ xsi < (nxc + 1)) ∧ (0 ≤ 1 ∧ 1 < 2) := ⟨Idx.srcCell_succ, Idx.srcCell_node, by decide⟩

theorem fteik2d_fteik2d_L371c12_it2_ctx0 (i iflag int_xsa int_xsa_v9 int_zsa int_zsa_v10 j nxc nzc sgntx sgntz xsi zsi : Int) (_ : 1 ≤ nzc) (_ : 1 ≤ nxc) (_ : 0 ≤ int_zsa) (_ : int_zsa ≤ nzc) (_ : 0 ≤ int_xsa) (_ : int_xsa ≤ nxc) (_ : -1 ≤ sgntz) (_ : sgntz ≤ 1) (_ : -1 ≤ sgntx) (_ : sgntx ≤ 1) (_ : sgntz = 1 → 1 ≤ i) (_ : sgntz = -1 → i ≤ nzc - 1) (_ : sgntx = 1 → 1 ≤ j) (_ : sgntx = -1 → j ≤ nxc - 1) (_ : zsi = (min int_zsa_v10 (nzc - 1))) (_ : xsi = (min int_xsa_v9 (nxc - 1))) (_ : 0 ≤ int_xsa_v9) (_ : int_xsa_v9 ≤ nxc) (_ : 0 ≤ int_zsa_v10) (_ : int_zsa_v10 ≤ nzc) (_ : iflag = 2) :
    (0 ≤ zsi ∧ zsi < (nzc + 1)) ∧ (0 ≤ (xsi + 1) ∧ (xsi + 1) < (nxc + 1)) := ⟨Idx.srcCell_node, Idx.srcCell_succ⟩

theorem fteik2d_fteik2d_L374c16_it2_ctx0 (i iflag int_xsa int_xsa_v9 int_zsa int_zsa_v10 j nxc nzc sgntx sgntz xsi zsi : Int) (_ : 1 ≤ nzc) (_ : 1 ≤ nxc) (_ : 0 ≤ int_zsa) (_ : int_zsa ≤ nzc) (_ : 0 ≤ int_xsa) (_ : int_xsa ≤ nxc) (_ : -1 ≤ sgntz) (_ : sgntz ≤ 1) (_ : -1 ≤ sgntx) (_ : sgntx ≤ 1) (_ : sgntz = 1 → 1 ≤ i) (_ : sgntz = -1 → i ≤ nzc - 1) (_ : sgntx = 1 → 1 ≤ j) (_ : sgntx = -1 → j ≤ nxc - 1) (_ : zsi = (min int_zsa_v10 (nzc - 1))) (_ : xsi = (min int_xsa_v9 (nxc - 1))) (_ : 0 ≤ int_xsa_v9) (_ : int_xsa_v9 ≤ nxc) (_ : 0 ≤ int_zsa_v10) (_ : int_zsa_v10 ≤ nzc) (_ : iflag = 2) :
    (0 ≤ zsi ∧ zsi < (nzc + 1)) ∧ (0 ≤ (xsi + 1) ∧ (xsi + 1) < (nxc + 1)) ∧ (0 ≤ 0 ∧ 0 < 2) := ⟨Idx.srcCell_node, Idx.srcCell_succ, by decide⟩

theorem fteik2d_fteik2d_L375c16_it2_ctx0 (i iflag int_xsa int_xsa_v9 int_zsa int_zsa_v10 j nxc nzc sgntx sgntz xsi zsi : Int) (_ : 1 ≤ nzc) (_ : 1 ≤ nxc) (_ : 0 ≤ int_zsa) (_ : int_zsa ≤ nzc) (_ : 0 ≤ int_xsa) (_ : int_xsa ≤ nxc) (_ : -1 ≤ sgntz) (_ : sgntz ≤ 1) (_ : -1 ≤ sgntx) (_ : sgntx ≤ 1) (_ : sgntz = 1 → 1 ≤ i) (_ : sgntz = -1 → i ≤ nzc - 1) (_ : sgntx = 1 → 1 ≤ j) (_ : sgntx = -1 → j ≤ nxc - 1) (_ : zsi = (min int_zsa_v10 (nzc - 1))) (_ : xsi = (min int_xsa_v9 (nxc - 1))) (_ : 0 ≤ int_xsa_v9) (_ : int_xsa_v9 ≤ nxc) (_ : 0 ≤ int_zsa_v10) (_ : int_zsa_v10 ≤ nzc) (_ : iflag = 2) :
    (0 ≤ zsi ∧ zsi < (nzc + 1)) ∧ (0 ≤ (xsi + 1) ∧ (xsi + 1) < (nxc + 1)) ∧ (0 ≤ 1 ∧ 1 < 2) := ⟨Idx.srcCell_node, Idx.srcCell_succ, by decide⟩

theorem fteik2d_fteik2d_L371c12_it3_ctx0 (i iflag int_xsa int_xsa_v9 int_zsa int_zsa_v10 j nxc nzc sgntx sgntz xsi zsi : Int) (_ : 1 ≤ nzc) (_ : 1 ≤ nxc) (_ : 0 ≤ int_zsa) (_ : int_zsa ≤ nzc) (_ : 0 ≤ int_xsa) (_ : int_xsa ≤ nxc) (_ : -1 ≤ sgntz) (_ : sgntz ≤ 1) (_ : -1 ≤ sgntx) (_ : sgntx ≤ 1) (_ : sgntz = 1 → 1 ≤ i) (_ : sgntz = -1 → i ≤ nzc - 1) (_ : sgntx = 1 → 1 ≤ j) (_ : sgntx = -1 → j ≤ nxc - 1) (_ : zsi = (min int_zsa_v10 (nzc - 1))) (_ : xsi = (min int_xsa_v9 (nxc - 1))) (_ : 0 ≤ int_xsa_v9) (_ : int_xsa_v9 ≤ nxc) (_ : 0 ≤ int_zsa_v10) (_ : int_zsa_v10 ≤ nzc) (_ : iflag = 2) :
    (0 ≤ (zsi + 1) ∧ (zsi + 1) < (nzc + 1)) ∧ (0 ≤ (xsi + 1) ∧ (xsi + 1) < (nxc + 1)) := ⟨Idx.srcCell_succ, Idx.srcCell_succ⟩

theorem fteik2d_fteik2d_L374c16_it3_ctx0 (i iflag int_xsa int_xsa_v9 int_zsa int_zsa_v10 j nxc nzc sgntx sgntz xsi zsi : Int) (_ : 1 ≤ nzc) (_ : 1 ≤ nxc) (_ : 0 ≤ int_zsa) (_ : int_zsa ≤ nzc) (_ : 0 ≤ int_xsa) (_ : int_xsa ≤ nxc) (_ : -1 ≤ sgntz) (_ : sgntz ≤ 1) (_ : -1 ≤ sgntx) (_ : sgntx ≤ 1) (_ : sgntz = 1 → 1 ≤ i) (_ : sgntz = -1 → i ≤ nzc - 1) (_ : sgntx = 1 → 1 ≤ j) (_ : sgntx = -1 → j ≤ nxc - 1) (_ : zsi = (min int_zsa_v10 (nzc - 1))) (_ : xsi = (min int_xsa_v9 (nxc - 1))) (_ : 0 ≤ int_xsa_v9) (_ : int_xsa_v9 ≤ nxc) (_ : 0 ≤ int_zsa_v10) (_ : int_zsa_v10 ≤ nzc) (_ : iflag = 2) :
    (0 ≤ (zsi + 1) ∧ (zsi + 1) < (nzc + 1)) ∧ (0 ≤ (xsi + 1) ∧ (xsi + 1) < (nxc + 1)) ∧ (0 ≤ 0 ∧ 0 < 2) := ⟨Idx.srcCell_succ, Idx.srcCell_succ, by decide⟩

theorem fteik2d_fteik2d_L375c16_it3_ctx0 (i iflag int_xsa int_xsa_v9 int_zsa int_zsa_v10 j nxc nzc sgntx sgntz xsi zsi : Int) (_ : 1 ≤ nzc) (_ : 1 ≤ nxc) (_ : 0 ≤ int_zsa) (_ : int_zsa ≤ nzc) (_ : 0 ≤ int_xsa) (_ : int_xsa ≤ nxc) (_ : -1 ≤ sgntz) (_ : sgntz ≤ 1) (_ : -1 ≤ sgntx) (_ : sgntx ≤ 1) (_ : sgntz = 1 → 1 ≤ i) (_ : sgntz = -1 → i ≤ nzc - 1) (_ : sgntx = 1 → 1 ≤ j) (_ : sgntx = -1 → j ≤ nxc - 1) (_ : zsi = (min int_zsa_v10 (nzc - 1))) (_ : xsi = (min int_xsa_v9 (nxc - 1))) (_ : 0 ≤ int_xsa_v9) (_ : int_xsa_v9 ≤ nxc) (_ : 0 ≤ int_zsa_v10) (_ : int_zsa_v10 ≤ nzc) (_ : iflag = 2) :
    (0 ≤ (zsi + 1) ∧ (zsi + 1) < (nzc + 1)) ∧ (0 ≤ (xsi + 1) ∧ (xsi + 1) < (nxc + 1)) ∧ (0 ≤ 1 ∧ 1 < 2) := ⟨Idx.srcCell_succ, Idx.srcCell_succ, by decide⟩

theorem fteik2d_fteik2d_L379c8_ctx0 (i iflag int_xsa int_xsa_v9 int_zsa int_zsa_v10 j nxc nzc sgntx sgntz xsi zsi : Int) (_ : 1 ≤ nzc) (_ : 1 ≤ nxc) (_ : 0 ≤ int_zsa) (_ : int_zsa ≤ nzc) (_ : 0 ≤ int_xsa) (_ : int_xsa ≤ nxc) (_ : -1 ≤ sgntz) (_ : sgntz ≤ 1) (_ : -1 ≤ sgntx) (_ : sgntx ≤ 1) (_ : sgntz = 1 → 1 ≤ i) (_ : sgntz = -1 → i ≤ nzc - 1) (_ : sgntx = 1 → 1 ≤ j) (_ : sgntx = -1 → j ≤ nxc - 1) (_ : zsi = (min int_zsa_v10 (nzc - 1))) (_ : xsi = (min int_xsa_v9 (nxc - 1))) (_ : 0 ≤ int_xsa_v9) (_ : int_xsa_v9 ≤ nxc) (_ : 0 ≤ int_zsa_v10) (_ : int_zsa_v10 ≤ nzc) (_ : iflag = 2) :
    (0 ≤ (xsi + 1) ∧ (xsi + 1) < (max (nzc + 1) (nxc + 1))) := by lia

theorem fteik2d_fteik2d_L381c19_ctx0 (i iflag int_xsa int_xsa_v9 int_zsa int_zsa_v10 j nxc nzc sgntx sgntz xsi zsi : Int) (_ : 1 ≤ nzc) (_ : 1 ≤ nxc) (_ : 0 ≤ int_zsa) (_ : int_zsa ≤ nzc) (_ : 0 ≤ int_xsa) (_ : int_xsa ≤ nxc) (_ : -1 ≤ sgntz) (_ : sgntz ≤ 1) (_ : -1 ≤ sgntx) (_ : sgntx ≤ 1) (_ : sgntz = 1 → 1 ≤ i) (_ : sgntz = -1 → i ≤ nzc - 1) (_ : sgntx = 1 → 1 ≤ j) (_ : sgntx = -1 → j ≤ nxc - 1) (_ : zsi = (min int_zsa_v10 (nzc - 1))) (_ : xsi = (min int_xsa_v9 (nxc - 1))) (_ : 0 ≤ int_xsa_v9) (_ : int_xsa_v9 ≤ nxc) (_ : 0 ≤ int_zsa_v10) (_ : int_zsa_v10 ≤ nzc) (_ : iflag = 2) (_ : (xsi + 2) ≤ j) (_ : j < (nxc + 1)) :
    (0 ≤ zsi ∧ zsi < nzc) ∧ (0 ≤ (j - 1) ∧ (j - 1) < nxc) := ⟨Idx.srcCell, by lia⟩

theorem fteik2d_fteik2d_L382c12_ctx0 (i iflag int_xsa int_xsa_v9 int_zsa int_zsa_v10 j nxc nzc sgntx sgntz xsi zsi : Int) (_ : 1 ≤ nzc) (_ : 1 ≤ nxc) (_ : 0 ≤ int_zsa) (_ : int_zsa ≤ nzc) (_ : 0 ≤ int_xsa) (_ : int_xsa ≤ nxc) (_ : -1 ≤ sgntz) (_ : sgntz ≤ 1) (_ : -1 ≤ sgntx) (_ : sgntx ≤ 1) (_ : sgntz = 1 → 1 ≤ i) (_ : sgntz = -1 → i ≤ nzc - 1) (_ : sgntx = 1 → 1 ≤ j) (_ : sgntx = -1 → j ≤ nxc - 1) (_ : zsi = (min int_zsa_v10 (nzc - 1))) (_ : xsi = (min int_xsa_v9 (nxc - 1))) (_ : 0 ≤ int_xsa_v9) (_ : int_xsa_v9 ≤ nxc) (_ : 0 ≤ int_zsa_v10) (_ : int_zsa_v10 ≤ nzc) (_ : iflag = 2) (_ : (xsi + 2) ≤ j) (_ : j < (nxc + 1)) :
    (0 ≤ j ∧ j < (max (nzc + 1) (nxc + 1))) := by lia

theorem fteik2d_fteik2d_L382c20_ctx0 (i iflag int_xsa int_xsa_v9 int_zsa int_zsa_v10 j nxc nzc sgntx sgntz xsi zsi : Int) (_ : 1 ≤ nzc) (_ : 1 ≤ nxc) (_ : 0 ≤ int_zsa) (_ : int_zsa ≤ nzc) (_ : 0 ≤ int_xsa) (_ : int_xsa ≤ nxc) (_ : -1 ≤ sgntz) (_ : sgntz ≤ 1) (_ : -1 ≤ sgntx) (_ : sgntx ≤ 1) (_ : sgntz = 1 → 1 ≤ i) (_ : sgntz = -1 → i ≤ nzc - 1) (_ : sgntx = 1 → 1 ≤ j) (_ : sgntx = -1 → j ≤ nxc - 1) (_ : zsi = (min int_zsa_v10 (nzc - 1))) (_ : xsi = (min int_xsa_v9 (nxc - 1))) (_ : 0 ≤ int_xsa_v9) (_ : int_xsa_v9 ≤ nxc) (_ : 0 ≤ int_zsa_v10) (_ : int_zsa_v10 ≤ nzc) (_ : iflag = 2) (_ : (xsi + 2) ≤ j) (_ : j < (nxc + 1)) :
    (0 ≤ (j - 1) ∧ (j - 1) < (max (nzc + 1) (nxc + 1))) := by lia

theorem fteik2d_fteik2d_L383c19_ctx0 (i iflag int_xsa int_xsa_v9 int_zsa int_zsa_v10 j nxc nzc sgntx sgntz xsi zsi : Int) (_ : 1 ≤ nzc) (_ : 1 ≤ nxc) (_ : 0 ≤ int_zsa) (_ : int_zsa ≤ nzc) (_ : 0 ≤ int_xsa) (_ : int_xsa ≤ nxc) (_ : -1 ≤ sgntz) (_ : sgntz ≤ 1) (_ : -1 ≤ sgntx) (_ : sgntx ≤ 1) (_ : sgntz = 1 → 1 ≤ i) (_ : sgntz = -1 → i ≤ nzc - 1) (_ : sgntx = 1 → 1 ≤ j) (_ : sgntx = -1 → j ≤ nxc - 1) (_ : zsi = (min int_zsa_v10 (nzc - 1))) (_ : xsi = (min int_xsa_v9 (nxc - 1))) (_ : 0 ≤ int_xsa_v9) (_ : int_xsa_v9 ≤ nxc) (_ : 0 ≤ int_zsa_v10) (_ : int_zsa_v10 ≤ nzc) (_ : iflag = 2) (_ : (xsi + 2) ≤ j) (_ : j < (nxc + 1)) :
    (0 ≤ j ∧ j < (max (nzc + 1) (nxc + 1))) := by lia

theorem fteik2d_fteik2d_L384c20_ctx0 (i iflag int_xsa int_xsa_v9 int_zsa int_zsa_v10 j nxc nzc sgntx sgntz xsi zsi : Int) (_ : 1 ≤ nzc) (_ : 1 ≤ nxc) (_ : 0 ≤ int_zsa) (_ : int_zsa ≤ nzc) (_ : 0 ≤ int_xsa) (_ : int_xsa ≤ nxc) (_ : -1 ≤ sgntz) (_ : sgntz ≤ 1) (_ : -1 ≤ sgntx) (_ : sgntx ≤ 1) (_ : sgntz = 1 → 1 ≤ i) (_ : sgntz = -1 → i ≤ nzc - 1) (_ : sgntx = 1 → 1 ≤ j) (_ : sgntx = -1 → j ≤ nxc - 1) (_ : zsi = (min int_zsa_v10 (nzc - 1))) (_ : xsi = (min int_xsa_v9 (nxc - 1))) (_ : 0 ≤ int_xsa_v9) (_ : int_xsa_v9 ≤ nxc) (_ : 0 ≤ int_zsa_v10) (_ : int_zsa_v10 ≤ nzc) (_ : iflag = 2) (_ : (xsi + 2) ≤ j) (_ : j < (nxc + 1)) :
    (0 ≤ (j - 1) ∧ (j - 1) < (max (nzc + 1) (nxc + 1))) := by lia

theorem fteik2d_fteik2d_L389c23_ctx0 (i iflag int_xsa int_xsa_v9 int_zsa int_zsa_v10 j nxc nzc sgntx sgntz xsi zsi : Int) (_ : 1 ≤ nzc) (_ : 1 ≤ nxc) (_ : 0 ≤ int_zsa) (_ : int_zsa ≤ nzc) (_ : 0 ≤ int_xsa) (_ : int_xsa ≤ nxc) (_ : -1 ≤ sgntz) (_ : sgntz ≤ 1) (_ : -1 ≤ sgntx) (_ : sgntx ≤ 1) (_ : sgntz = 1 → 1 ≤ i) (_ : sgntz = -1 → i ≤ nzc - 1) (_ : sgntx = 1 → 1 ≤ j) (_ : sgntx = -1 → j ≤ nxc - 1) (_ : zsi = (min int_zsa_v10 (nzc - 1))) (_ : xsi = (min int_xsa_v9 (nxc - 1))) (_ : 0 ≤ int_xsa_v9) (_ : int_xsa_v9 ≤ nxc) (_ : 0 ≤ int_zsa_v10) (_ : int_zsa_v10 ≤ nzc) (_ : iflag = 2) (_ : (xsi + 2) ≤ j) (_ : j < (nxc + 1)) :
    (0 ≤ (zsi + 1) ∧ (zsi + 1) < (nzc + 1)) ∧ (0 ≤ (j - 1) ∧ (j - 1) < (nxc + 1)) := ⟨Idx.srcCell_succ, by lia⟩

theorem fteik2d_fteik2d_L393c16_ctx0 (i iflag int_xsa int_xsa_v9 int_zsa int_zsa_v10 j nxc nzc sgntx sgntz xsi zsi : Int) (_ : 1 ≤ nzc) (_ : 1 ≤ nxc) (_ : 0 ≤ int_zsa) (_ : int_zsa ≤ nzc) (_ : 0 ≤ int_xsa) (_ : int_xsa ≤ nxc) (_ : -1 ≤ sgntz) (_ : sgntz ≤ 1) (_ : -1 ≤ sgntx) (_ : sgntx ≤ 1) (_ : sgntz = 1 → 1 ≤ i) (_ : sgntz = -1 → i ≤ nzc - 1) (_ : sgntx = 1 → 1 ≤ j) (_ : sgntx = -1 → j ≤ nxc - 1) (_ : zsi = (min int_zsa_v10 (nzc - 1))) (_ : xsi = (min int_xsa_v9 (nxc - 1))) (_ : 0 ≤ int_xsa_v9) (_ : int_xsa_v9 ≤ nxc) (_ : 0 ≤ int_zsa_v10) (_ : int_zsa_v10 ≤ nzc) (_ : iflag = 2) (_ : (xsi + 2) ≤ j) (_ : j < (nxc + 1)) :
    (0 ≤ (zsi + 1) ∧ (zsi + 1) < (nzc + 1)) ∧ (0 ≤ j ∧ j < (nxc + 1)) := ⟨Idx.srcCell_succ, by lia⟩

theorem fteik2d_fteik2d_L394c20_ctx0 (i iflag int_xsa int_xsa_v9 int_zsa int_zsa_v10 j nxc nzc sgntx sgntz xsi zsi : Int) (_ : 1 ≤ nzc) (_ : 1 ≤ nxc) (_ : 0 ≤ int_zsa) (_ : int_zsa ≤ nzc) (_ : 0 ≤ int_xsa) (_ : int_xsa ≤ nxc) (_ : -1 ≤ sgntz) (_ : sgntz ≤ 1) (_ : -1 ≤ sgntx) (_ : sgntx ≤ 1) (_ : sgntz = 1 → 1 ≤ i) (_ : sgntz = -1 → i ≤ nzc - 1) (_ : sgntx = 1 → 1 ≤ j) (_ : sgntx = -1 → j ≤ nxc - 1) (_ : zsi = (min int_zsa_v10 (nzc - 1))) (_ : xsi = (min int_xsa_v9 (nxc - 1))) (_ : 0 ≤ int_xsa_v9) (_ : int_xsa_v9 ≤ nxc) (_ : 0 ≤ int_zsa_v10) (_ : int_zsa_v10 ≤ nzc) (_ : iflag = 2) (_ : (xsi + 2) ≤ j) (_ : j < (nxc + 1)) :
    (0 ≤ (zsi + 1) ∧ (zsi + 1) < (nzc + 1)) ∧ (0 ≤ j ∧ j < (nxc + 1)) := ⟨Idx.srcCell_succ, by lia⟩

theorem fteik2d_fteik2d_L411c20_ctx0 (i iflag int_xsa int_xsa_v9 int_zsa int_zsa_v10 j nxc nzc sgntx sgntz xsi zsi : Int) (_ : 1 ≤ nzc) (_ : 1 ≤ nxc) (_ : 0 ≤ int_zsa) (_ : int_zsa ≤ nzc) (_ : 0 ≤ int_xsa) (_ : int_xsa ≤ nxc) (_ : -1 ≤ sgntz) (_ : sgntz ≤ 1) (_ : -1 ≤ sgntx) (_ : sgntx ≤ 1) (_ : sgntz = 1 → 1 ≤ i) (_ : sgntz = -1 → i ≤ nzc - 1) (_ : sgntx = 1 → 1 ≤ j) (_ : sgntx = -1 → j ≤ nxc - 1) (_ : zsi = (min int_zsa_v10 (nzc - 1))) (_ : xsi = (min int_xsa_v9 (nxc - 1))) (_ : 0 ≤ int_xsa_v9) (_ : int_xsa_v9 ≤ nxc) (_ : 0 ≤ int_zsa_v10) (_ : int_zsa_v10 ≤ nzc) (_ : iflag = 2) (_ : (xsi + 2) ≤ j) (_ : j < (nxc + 1)) :
    (0 ≤ (zsi + 1) ∧ (zsi + 1) < (nzc + 1)) ∧ (0 ≤ j ∧ j < (nxc + 1)) ∧ (0 ≤ 0 ∧ 0 < 2) := ⟨Idx.srcCell_succ, by lia, by decide⟩

theorem fteik2d_fteik2d_L412c20_ctx0 (i iflag int_xsa int_xsa_v9 int_zsa int_zsa_v10 j nxc nzc sgntx sgntz xsi zsi : Int) (_ : 1 ≤ nzc) (_ : 1 ≤ nxc) (_ : 0 ≤ int_zsa) (_ : int_zsa ≤ nzc) (_ : 0 ≤ int_xsa) (_ : int_xsa ≤ nxc) (_ : -1 ≤ sgntz) (_ : sgntz ≤ 1) (_ : -1 ≤ sgntx) (_ : sgntx ≤ 1) (_ : sgntz = 1 → 1 ≤ i) (_ : sgntz = -1 → i ≤ nzc - 1) (_ : sgntx = 1 → 1 ≤ j) (_ : sgntx = -1 → j ≤ nxc - 1) (_ : zsi = (min int_zsa_v10 (nzc - 1))) (_ : xsi = (min int_xsa_v9 (nxc - 1))) (_ : 0 ≤ int_xsa_v9) (_ : int_xsa_v9 ≤ nxc) (_ : 0 ≤ int_zsa_v10) (_ : int_zsa_v10 ≤ nzc) (_ : iflag = 2) (_ : (xsi + 2) ≤ j) (_ : j < (nxc + 1)) :
    (0 ≤ (zsi + 1) ∧ (zsi + 1) < (nzc + 1)) ∧ (0 ≤ j ∧ j < (nxc + 1)) ∧ (0 ≤ 1 ∧ 1 < 2) := ⟨Idx.srcCell_succ, by lia, by decide⟩

theorem fteik2d_fteik2d_L417c23_ctx0 (i iflag int_xsa int_xsa_v9 int_zsa int_zsa_v10 j nxc nzc sgntx sgntz xsi zsi : Int) (_ : 1 ≤ nzc) (_ : 1 ≤ nxc) (_ : 0 ≤ int_zsa) (_ : int_zsa ≤ nzc) (_ : 0 ≤ int_xsa) (_ : int_xsa ≤ nxc) (_ : -1 ≤ sgntz) (_ : sgntz ≤ 1) (_ : -1 ≤ sgntx) (_ : sgntx ≤ 1) (_ : sgntz = 1 → 1 ≤ i) (_ : sgntz = -1 → i ≤ nzc - 1) (_ : sgntx = 1 → 1 ≤ j) (_ : sgntx = -1 → j ≤ nxc - 1) (_ : zsi = (min int_zsa_v10 (nzc - 1))) (_ : xsi = (min int_xsa_v9 (nxc - 1))) (_ : 0 ≤ int_xsa_v9) (_ : int_xsa_v9 ≤ nxc) (_ : 0 ≤ int_zsa_v10) (_ : int_zsa_v10 ≤ nzc) (_ : iflag = 2) (_ : (xsi + 2) ≤ j) (_ : j < (nxc + 1)) :
    (0 ≤ zsi ∧ zsi < (nzc + 1)) ∧ (0 ≤ (j - 1) ∧ (j - 1) < (nxc + 1)) := ⟨Idx.srcCell_node, by lia⟩

theorem fteik2d_fteik2d_L419c16_ctx0 (i iflag int_xsa int_xsa_v9 int_zsa int_zsa_v10 j nxc nzc sgntx sgntz xsi zsi : Int) (_ : 1 ≤ nzc) (_ : 1 ≤ nxc) (_ : 0 ≤ int_zsa) (_ : int_zsa ≤ nzc) (_ : 0 ≤ int_xsa) (_ : int_xsa ≤ nxc) (_ : -1 ≤ sgntz) (_ : sgntz ≤ 1) (_ : -1 ≤ sgntx) (_ : sgntx ≤ 1) (_ : sgntz = 1 → 1 ≤ i) (_ : sgntz = -1 → i ≤ nzc - 1) (_ : sgntx = 1 → 1 ≤ j) (_ : sgntx = -1 → j ≤ nxc - 1) (_ : zsi = (min int_zsa_v10 (nzc - 1))) (_ : xsi = (min int_xsa_v9 (nxc - 1))) (_ : 0 ≤ int_xsa_v9) (_ : int_xsa_v9 ≤ nxc) (_ : 0 ≤ int_zsa_v10) (_ : int_zsa_v10 ≤ nzc) (_ : iflag = 2) (_ : (xsi + 2) ≤ j) (_ : j < (nxc + 1)) :
    (0 ≤ zsi ∧ zsi < (nzc + 1)) ∧ (0 ≤ j ∧ j < (nxc + 1)) := ⟨Idx.srcCell_node, by lia⟩

theorem fteik2d_fteik2d_L420c20_ctx0 (i iflag int_xsa int_xsa_v9 int_zsa int_zsa_v10 j nxc nzc sgntx sgntz xsi zsi : Int) (_ : 1 ≤ nzc) (_ : 1 ≤ nxc) (_ : 0 ≤ int_zsa) (_ : int_zsa ≤ nzc) (_ : 0 ≤ int_xsa) (_ : int_xsa ≤ nxc) (_ : -1 ≤ sgntz) (_ : sgntz ≤ 1) (_ : -1 ≤ sgntx) (_ : sgntx ≤ 1) (_ : sgntz = 1 → 1 ≤ i) (_ : sgntz = -1 → i ≤ nzc - 1) (_ : sgntx = 1 → 1 ≤ j) (_ : sgntx = -1 → j ≤ nxc - 1) (_ : zsi = (min int_zsa_v10 (nzc - 1))) (_ : xsi = (min int_xsa_v9 (nxc - 1))) (_ : 0 ≤ int_xsa_v9) (_ : int_xsa_v9 ≤ nxc) (_ : 0 ≤ int_zsa_v10) (_ : int_zsa_v10 ≤ nzc) (_ : iflag = 2) (_ : (xsi + 2) ≤ j) (_ : j < (nxc + 1)) :
    (0 ≤ zsi ∧ zsi < (nzc + 1)) ∧ (0 ≤ j ∧ j < (nxc + 1)) := ⟨Idx.srcCell_node, by lia⟩

theorem fteik2d_fteik2d_L437c20_ctx0 (i iflag int_xsa int_xsa_v9 int_zsa int_zsa_v10 j nxc nzc sgntx sgntz xsi zsi : Int) (_ : 1 ≤ nzc) (_ : 1 ≤ nxc) (_ : 0 ≤ int_zsa) (_ : int_zsa ≤ nzc) (_ : 0 ≤ int_xsa) (_ : int_xsa ≤ nxc) (_ : -1 ≤ sgntz) (_ : sgntz ≤ 1) (_ : -1 ≤ sgntx) (_ : sgntx ≤ 1) (_ : sgntz = 1 → 1 ≤ i) (_ : sgntz = -1 → i ≤ nzc - 1) (_ : sgntx = 1 → 1 ≤ j) (_ : sgntx = -1 → j ≤ nxc - 1) (_ : zsi = (min int_zsa_v10 (nzc - 1))) (_ : xsi = (min int_xsa_v9 (nxc - 1))) (_ : 0 ≤ int_xsa_v9) (_ : int_xsa_v9 ≤ nxc) (_ : 0 ≤ int_zsa_v10) (_ : int_zsa_v10 ≤ nzc) (_ : iflag = 2) (_ : (xsi + 2) ≤ j) (_ : j < (nxc + 1)) :
    (0 ≤ zsi ∧ zsi < (nzc + 1)) ∧ (0 ≤ j ∧ j < (nxc + 1)) ∧ (0 ≤ 0 ∧ 0 < 2) := ⟨Idx.srcCell_node, by lia, by decide⟩

theorem fteik2d_fteik2d_L438c20_ctx0 (i iflag int_xsa int_xsa_v9 int_zsa int_zsa_v10 j nxc nzc sgntx sgntz xsi zsi : Int) (_ : 1 ≤ nzc) (_ : 1 ≤ nxc) (_ : 0 ≤ int_zsa) (_ : int_zsa ≤ nzc) (_ : 0 ≤ int_xsa) (_ : int_xsa ≤ nxc) (_ : -1 ≤ sgntz) (_ : sgntz ≤ 1) (_ : -1 ≤ sgntx) (_ : sgntx ≤ 1) (_ : sgntz = 1 → 1 ≤ i) (_ : sgntz = -1 → i ≤ nzc - 1) (_ : sgntx = 1 → 1 ≤ j) (_ : sgntx = -1 → j ≤ nxc - 1) (_ : zsi = (min int_zsa_v10 (nzc - 1))) (_ : xsi = (min int_xsa_v9 (nxc - 1))) (_ : 0 ≤ int_xsa_v9) (_ : int_xsa_v9 ≤ nxc) (_ : 0 ≤ int_zsa_v10) (_ : int_zsa_v10 ≤ nzc) (_ : iflag = 2) (_ : (xsi + 2) ≤ j) (_ : j < (nxc + 1)) :
    (0 ≤ zsi ∧ zsi < (nzc + 1)) ∧ (0 ≤ j ∧ j < (nxc + 1)) ∧ (0 ≤ 1 ∧ 1 < 2) := ⟨Idx.srcCell_node, by lia, by decide⟩

theorem fteik2d_fteik2d_L440c8_ctx0 (i iflag int_xsa int_xsa_v9 int_zsa int_zsa_v10 j nxc nzc sgntx sgntz xsi zsi : Int) (_ : 1 ≤ nzc) (_ : 1 ≤ nxc) (_ : 0 ≤ int_zsa) (_ : int_zsa ≤ nzc) (_ : 0 ≤ int_xsa) (_ : int_xsa ≤ nxc) (_ : -1 ≤ sgntz) (_ : sgntz ≤ 1) (_ : -1 ≤ sgntx) (_ : sgntx ≤ 1) (_ : sgntz = 1 → 1 ≤ i) (_ : sgntz = -1 → i ≤ nzc - 1) (_ : sgntx = 1 → 1 ≤ j) (_ : sgntx = -1 → j ≤ nxc - 1) (_ : zsi = (min int_zsa_v10 (nzc - 1))) (_ : xsi = (min int_xsa_v9 (nxc - 1))) (_ : 0 ≤ int_xsa_v9) (_ : int_xsa_v9 ≤ nxc) (_ : 0 ≤ int_zsa_v10) (_ : int_zsa_v10 ≤ nzc) (_ : iflag = 2) :
    (0 ≤ xsi ∧ xsi < (max (nzc + 1) (nxc + 1))) := by lia

theorem fteik2d_fteik2d_L442c19_ctx0 (i iflag int_xsa int_xsa_v9 int_zsa int_zsa_v10 j nxc nzc sgntx sgntz xsi zsi : Int) (_ : 1 ≤ nzc) (_ : 1 ≤ nxc) (_ : 0 ≤ int_zsa) (_ : int_zsa ≤ nzc) (_ : 0 ≤ int_xsa) (_ : int_xsa ≤ nxc) (_ : -1 ≤ sgntz) (_ : sgntz ≤ 1) (_ : -1 ≤ sgntx) (_ : sgntx ≤ 1) (_ : sgntz = 1 → 1 ≤ i) (_ : sgntz = -1 → i ≤ nzc - 1) (_ : sgntx = 1 → 1 ≤ j) (_ : sgntx = -1 → j ≤ nxc - 1) (_ : zsi = (min int_zsa_v10 (nzc - 1))) (_ : xsi = (min int_xsa_v9 (nxc - 1))) (_ : 0 ≤ int_xsa_v9) (_ : int_xsa_v9 ≤ nxc) (_ : 0 ≤ int_zsa_v10) (_ : int_zsa_v10 ≤ nzc) (_ : iflag = 2) (_ : j ≤ (xsi - 1)) (_ : (-1) < j) :
    (0 ≤ zsi ∧ zsi < nzc) ∧ (0 ≤ j ∧ j < nxc) := ⟨Idx.srcCell, by lia⟩

theorem fteik2d_fteik2d_L443c12_ctx0 (i iflag int_xsa int_xsa_v9 int_zsa int_zsa_v10 j nxc nzc sgntx sgntz xsi zsi : Int) (_ : 1 ≤ nzc) (_ : 1 ≤ nxc) (_ : 0 ≤ int_zsa) (_ : int_zsa ≤ nzc) (_ : 0 ≤ int_xsa) (_ : int_xsa ≤ nxc) (_ : -1 ≤ sgntz) (_ : sgntz ≤ 1) (_ : -1 ≤ sgntx) (_ : sgntx ≤ 1) (_ : sgntz = 1 → 1 ≤ i) (_ : sgntz = -1 → i ≤ nzc - 1) (_ : sgntx = 1 → 1 ≤ j) (_ : sgntx = -1 → j ≤ nxc - 1) (_ : zsi = (min int_zsa_v10 (nzc - 1))) (_ : xsi = (min int_xsa_v9 (nxc - 1))) (_ : 0 ≤ int_xsa_v9) (_ : int_xsa_v9 ≤ nxc) (_ : 0 ≤ int_zsa_v10) (_ : int_zsa_v10 ≤ nzc) (_ : iflag = 2) (_ : j ≤ (xsi - 1)) (_ : (-1) < j) :
    (0 ≤ j ∧ j < (max (nzc + 1) (nxc + 1))) := by lia

theorem fteik2d_fteik2d_L443c20_ctx0 (i iflag int_xsa int_xsa_v9 int_zsa int_zsa_v10 j nxc nzc sgntx sgntz xsi zsi : Int) (_ : 1 ≤ nzc) (_ : 1 ≤ nxc) (_ : 0 ≤ int_zsa) (_ : int_zsa ≤ nzc) (_ : 0 ≤ int_xsa) (_ : int_xsa ≤ nxc) (_ : -1 ≤ sgntz) (_ : sgntz ≤ 1) (_ : -1 ≤ sgntx) (_ : sgntx ≤ 1) (_ : sgntz = 1 → 1 ≤ i) (_ : sgntz = -1 → i ≤ nzc - 1) (_ : sgntx = 1 → 1 ≤ j) (_ : sgntx = -1 → j ≤ nxc - 1) (_ : zsi = (min int_zsa_v10 (nzc - 1))) (_ : xsi = (min int_xsa_v9 (nxc - 1))) (_ : 0 ≤ int_xsa_v9) (_ : int_xsa_v9 ≤ nxc) (_ : 0 ≤ int_zsa_v10) (_ : int_zsa_v10 ≤ nzc) (_ : iflag = 2) (_ : j ≤ (xsi - 1)) (_ : (-1) < j) :
    (0 ≤ (j + 1) ∧ (j + 1) < (max (nzc + 1) (nxc + 1))) := by lia

theorem fteik2d_fteik2d_L444c19_ctx0 (i iflag int_xsa int_xsa_v9 int_zsa int_zsa_v10 j nxc nzc sgntx sgntz xsi zsi : Int) (_ : 1 ≤ nzc) (_ : 1 ≤ nxc) (_ : 0 ≤ int_zsa) (_ : int_zsa ≤ nzc) (_ : 0 ≤ int_xsa) (_ : int_xsa ≤ nxc) (_ : -1 ≤ sgntz) (_ : sgntz ≤ 1) (_ : -1 ≤ sgntx) (_ : sgntx ≤ 1) (_ : sgntz = 1 → 1 ≤ i) (_ : sgntz = -1 → i ≤ nzc - 1) (_ : sgntx = 1 → 1 ≤ j) (_ : sgntx = -1 → j ≤ nxc - 1) (_ : zsi = (min int_zsa_v10 (nzc - 1))) (_ : xsi = (min int_xsa_v9 (nxc - 1))) (_ : 0 ≤ int_xsa_v9) (_ : int_xsa_v9 ≤ nxc) (_ : 0 ≤ int_zsa_v10) (_ : int_zsa_v10 ≤ nzc) (_ : iflag = 2) (_ : j ≤ (xsi - 1)) (_ : (-1) < j) :
    (0 ≤ j ∧ j < (max (nzc + 1) (nxc + 1))) := by lia

theorem fteik2d_fteik2d_L445c20_ctx0 (i iflag int_xsa int_xsa_v9 int_zsa int_zsa_v10 j nxc nzc sgntx sgntz xsi zsi : Int) (_ : 1 ≤ nzc) (_ : 1 ≤ nxc) (_ : 0 ≤ int_zsa) (_ : int_zsa ≤ nzc) (_ : 0 ≤ int_xsa) (_ : int_xsa ≤ nxc) (_ : -1 ≤ sgntz) (_ : sgntz ≤ 1) (_ : -1 ≤ sgntx) (_ : sgntx ≤ 1) (_ : sgntz = 1 → 1 ≤ i) (_ : sgntz = -1 → i ≤ nzc - 1) (_ : sgntx = 1 → 1 ≤ j) (_ : sgntx = -1 → j ≤ nxc - 1) (_ : zsi = (min int_zsa_v10 (nzc - 1))) (_ : xsi = (min int_xsa_v9 (nxc - 1))) (_ : 0 ≤ int_xsa_v9) (_ : int_xsa_v9 ≤ nxc) (_ : 0 ≤ int_zsa_v10) (_ : int_zsa_v10 ≤ nzc) (_ : iflag = 2) (_ : j ≤ (xsi - 1)) (_ : (-1) < j) :
    (0 ≤ (j + 1) ∧ (j + 1) < (max (nzc + 1) (nxc + 1))) := by lia

theorem fteik2d_fteik2d_L450c23_ctx0 (i iflag int_xsa int_xsa_v9 int_zsa int_zsa_v10 j nxc nzc sgntx sgntz xsi zsi : Int) (_ : 1 ≤ nzc) (_ : 1 ≤ nxc) (_ : 0 ≤ int_zsa) (_ : int_zsa ≤ nzc) (_ : 0 ≤ int_xsa) (_ : int_xsa ≤ nxc) (_ : -1 ≤ sgntz) (_ : sgntz ≤ 1) (_ : -1 ≤ sgntx) (_ : sgntx ≤ 1) (_ : sgntz = 1 → 1 ≤ i) (_ : sgntz = -1 → i ≤ nzc - 1) (_ : sgntx = 1 → 1 ≤ j) (_ : sgntx = -1 → j ≤ nxc - 1) (_ : zsi = (min int_zsa_v10 (nzc - 1))) (_ : xsi = (min int_xsa_v9 (nxc - 1))) (_ : 0 ≤ int_xsa_v9) (_ : int_xsa_v9 ≤ nxc) (_ : 0 ≤ int_zsa_v10) (_ : int_zsa_v10 ≤ nzc) (_ : iflag = 2) (_ : j ≤ (xsi - 1)) (_ : (-1) < j) :
    (0 ≤ (zsi + 1) ∧ (zsi + 1) < (nzc + 1)) ∧ (0 ≤ (j + 1) ∧ (j + 1) < (nxc + 1)) := ⟨Idx.srcCell_succ, by lia⟩

theorem fteik2d_fteik2d_L454c16_ctx0 (i iflag int_xsa int_xsa_v9 int_zsa int_zsa_v10 j nxc nzc sgntx sgntz xsi zsi : Int) (_ : 1 ≤ nzc) (_ : 1 ≤ nxc) (_ : 0 ≤ int_zsa) (_ : int_zsa ≤ nzc) (_ : 0 ≤ int_xsa) (_ : int_xsa ≤ nxc) (_ : -1 ≤ sgntz) (_ : sgntz ≤ 1) (_ : -1 ≤ sgntx) (_ : sgntx ≤ 1) (_ : sgntz = 1 → 1 ≤ i) (_ : sgntz = -1 → i ≤ nzc - 1) (_ : sgntx = 1 → 1 ≤ j) (_ : sgntx = -1 → j ≤ nxc - 1) (_ : zsi = (min int_zsa_v10 (nzc - 1))) (_ : xsi = (min int_xsa_v9 (nxc - 1))) (_ : 0 ≤ int_xsa_v9) (_ : int_xsa_v9 ≤ nxc) (_ : 0 ≤ int_zsa_v10) (_ : int_zsa_v10 ≤ nzc) (_ : iflag = 2) (_ : j ≤ (xsi - 1)) (_ : (-1) < j) :
    (0 ≤ (zsi + 1) ∧ (zsi + 1) < (nzc + 1)) ∧ (0 ≤ j ∧ j < (nxc + 1)) := ⟨Idx.srcCell_succ, by lia⟩

theorem fteik2d_fteik2d_L455c20_ctx0 (i iflag int_xsa int_xsa_v9 int_zsa int_zsa_v10 j nxc nzc sgntx sgntz xsi zsi : Int) (_ : 1 ≤ nzc) (_ : 1 ≤ nxc) (_ : 0 ≤ int_zsa) (_ : int_zsa ≤ nzc) (_ : 0 ≤ int_xsa) (_ : int_xsa ≤ nxc) (_ : -1 ≤ sgntz) (_ : sgntz ≤ 1) (_ : -1 ≤ sgntx) (_ : sgntx ≤ 1) (_ : sgntz = 1 → 1 ≤ i) (_ : sgntz = -1 → i ≤ nzc - 1) (_ : sgntx = 1 → 1 ≤ j) (_ : sgntx = -1 → j ≤ nxc - 1) (_ : zsi = (min int_zsa_v10 (nzc - 1))) (_ : xsi = (min int_xsa_v9 (nxc - 1))) (_ : 0 ≤ int_xsa_v9) (_ : int_xsa_v9 ≤ nxc) (_ : 0 ≤ int_zsa_v10) (_ : int_zsa_v10 ≤ nzc) (_ : iflag = 2) (_ : j ≤ (xsi - 1)) (_ : (-1) < j) :
    (0 ≤ (zsi + 1) ∧ (zsi + 1) < (nzc + 1)) ∧ (0 ≤ j ∧ j < (nxc + 1)) := ⟨Idx.srcCell_succ, by lia⟩

theorem fteik2d_fteik2d_L472c20_ctx0 (i iflag int_xsa int_xsa_v9 int_zsa int_zsa_v10 j nxc nzc sgntx sgntz xsi zsi : Int) (_ : 1 ≤ nzc) (_ : 1 ≤ nxc) (_ : 0 ≤ int_zsa) (_ : int_zsa ≤ nzc) (_ : 0 ≤ int_xsa) (_ : int_xsa ≤ nxc) (_ : -1 ≤ sgntz) (_ : sgntz ≤ 1) (_ : -1 ≤ sgntx) (_ : sgntx ≤ 1) (_ : sgntz = 1 → 1 ≤ i) (_ : sgntz = -1 → i ≤ nzc - 1) (_ : sgntx = 1 → 1 ≤ j) (_ : sgntx = -1 → j ≤ nxc - 1) (_ : zsi = (min int_zsa_v10 (nzc - 1))) (_ : xsi = (min int_xsa_v9 (nxc - 1))) (_ : 0 ≤ int_xsa_v9) (_ : int_xsa_v9 ≤ nxc) (_ : 0 ≤ int_zsa_v10) (_ : int_zsa_v10 ≤ nzc) (_ : iflag = 2) (_ : j ≤ (xsi - 1)) (_ : (-1) < j) :
    (0 ≤ (zsi + 1) ∧ (zsi + 1) < (nzc + 1)) ∧ (0 ≤ j ∧ j < (nxc + 1)) ∧ (0 ≤ 0 ∧ 0 < 2) := ⟨Idx.srcCell_succ, by lia, by decide⟩

theorem fteik2d_fteik2d_L473c20_ctx0 (i iflag int_xsa int_xsa_v9 int_zsa int_zsa_v10 j nxc nzc sgntx sgntz xsi zsi : Int) (_ : 1 ≤ nzc) (_ : 1 ≤ nxc) (_ : 0 ≤ int_zsa) (_ : int_zsa ≤ nzc) (_ : 0 ≤ int_xsa) (_ : int_xsa ≤ nxc) (_ : -1 ≤ sgntz) (_ : sgntz ≤ 1) (_ : -1 ≤ sgntx) (_ : sgntx ≤ 1) (_ : sgntz = 1 → 1 ≤ i) (_ : sgntz = -1 → i ≤ nzc - 1) (_ : sgntx = 1 → 1 ≤ j) (_ : sgntx = -1 → j ≤ nxc - 1) (_ : zsi = (min int_zsa_v10 (nzc - 1))) (_ : xsi = (min int_xsa_v9 (nxc - 1))) (_ : 0 ≤ int_xsa_v9) (_ : int_xsa_v9 ≤ nxc) (_ : 0 ≤ int_zsa_v10) (_ : int_zsa_v10 ≤ nzc) (_ : iflag = 2) (_ : j ≤ (xsi - 1)) (_ : (-1) < j) :
    (0 ≤ (zsi + 1) ∧ (zsi + 1) < (nzc + 1)) ∧ (0 ≤ j ∧ j < (nxc + 1)) ∧ (0 ≤ 1 ∧ 1 < 2) := ⟨Idx.srcCell_succ, by lia, by decide⟩

theorem fteik2d_fteik2d_L478c23_ctx0 (i iflag int_xsa int_xsa_v9 int_zsa int_zsa_v10 j nxc nzc sgntx sgntz xsi zsi : Int) (_ : 1 ≤ nzc) (_ : 1 ≤ nxc) (_ : 0 ≤ int_zsa) (_ : int_zsa ≤ nzc) (_ : 0 ≤ int_xsa) (_ : int_xsa ≤ nxc) (_ : -1 ≤ sgntz) (_ : sgntz ≤ 1) (_ : -1 ≤ sgntx) (_ : sgntx ≤ 1) (_ : sgntz = 1 → 1 ≤ i) (_ : sgntz = -1 → i ≤ nzc - 1) (_ : sgntx = 1 → 1 ≤ j) (_ : sgntx = -1 → j ≤ nxc - 1) (_ : zsi = (min int_zsa_v10 (nzc - 1))) (_ : xsi = (min int_xsa_v9 (nxc - 1))) (_ : 0 ≤ int_xsa_v9) (_ : int_xsa_v9 ≤ nxc) (_ : 0 ≤ int_zsa_v10) (_ : int_zsa_v10 ≤ nzc) (_ : iflag = 2) (_ : j ≤ (xsi - 1)) (_ : (-1) < j) :
    (0 ≤ zsi ∧ zsi < (nzc + 1)) ∧ (0 ≤ (j + 1) ∧ (j + 1) < (nxc + 1)) := ⟨Idx.srcCell_node, by lia⟩

theorem fteik2d_fteik2d_L480c16_ctx0 (i iflag int_xsa int_xsa_v9 int_zsa int_zsa_v10 j nxc nzc sgntx sgntz xsi zsi : Int) (_ : 1 ≤ nzc) (_ : 1 ≤ nxc) (_ : 0 ≤ int_zsa) (_ : int_zsa ≤ nzc) (_ : 0 ≤ int_xsa) (_ : int_xsa ≤ nxc) (_ : -1 ≤ sgntz) (_ : sgntz ≤ 1) (_ : -1 ≤ sgntx) (_ : sgntx ≤ 1) (_ : sgntz = 1 → 1 ≤ i) (_ : sgntz = -1 → i ≤ nzc - 1) (_ : sgntx = 1 → 1 ≤ j) (_ : sgntx = -1 → j ≤ nxc - 1) (_ : zsi = (min int_zsa_v10 (nzc - 1))) (_ : xsi = (min int_xsa_v9 (nxc - 1))) (_ : 0 ≤ int_xsa_v9) (_ : int_xsa_v9 ≤ nxc) (_ : 0 ≤ int_zsa_v10) (_ : int_zsa_v10 ≤ nzc) (_ : iflag = 2) (_ : j ≤ (xsi - 1)) (_ : (-1) < j) :
    (0 ≤ zsi ∧ zsi < (nzc + 1)) ∧ (0 ≤ j ∧ j < (nxc + 1)) := ⟨Idx.srcCell_node, by lia⟩

theorem fteik2d_fteik2d_L481c20_ctx0 (i iflag int_xsa int_xsa_v9 int_zsa int_zsa_v10 j nxc nzc sgntx sgntz xsi zsi : Int) (_ : 1 ≤ nzc) (_ : 1 ≤ nxc) (_ : 0 ≤ int_zsa) (_ : int_zsa ≤ nzc) (_ : 0 ≤ int_xsa) (_ : int_xsa ≤ nxc) (_ : -1 ≤ sgntz) (_ : sgntz ≤ 1) (_ : -1 ≤ sgntx) (_ : sgntx ≤ 1) (_ : sgntz = 1 → 1 ≤ i) (_ : sgntz = -1 → i ≤ nzc - 1) (_ : sgntx = 1 → 1 ≤ j) (_ : sgntx = -1 → j ≤ nxc - 1) (_ : zsi = (min int_zsa_v10 (nzc - 1))) (_ : xsi = (min int_xsa_v9 (nxc - 1))) (_ : 0 ≤ int_xsa_v9) (_ : int_xsa_v9 ≤ nxc) (_ : 0 ≤ int_zsa_v10) (_ : int_zsa_v10 ≤ nzc) (_ : iflag = 2) (_ : j ≤ (xsi - 1)) (_ : (-1) < j) :
    (0 ≤ zsi ∧ zsi < (nzc + 1)) ∧ (0 ≤ j ∧ j < (nxc + 1)) := ⟨Idx.srcCell_node, by lia⟩

theorem fteik2d_fteik2d_L498c20_ctx0 (i iflag int_xsa int_xsa_v9 int_zsa int_zsa_v10 j nxc nzc sgntx sgntz xsi zsi : Int) (_ : 1 ≤ nzc) (_ : 1 ≤ nxc) (_ : 0 ≤ int_zsa) (_ : int_zsa ≤ nzc) (_ : 0 ≤ int_xsa) (_ : int_xsa ≤ nxc) (_ : -1 ≤ sgntz) (_ : sgntz ≤ 1) (_ : -1 ≤ sgntx) (_ : sgntx ≤ 1) (_ : sgntz = 1 → 1 ≤ i) (_ : sgntz = -1 → i ≤ nzc - 1) (_ : sgntx = 1 → 1 ≤ j) (_ : sgntx = -1 → j ≤ nxc - 1) (_ : zsi = (min int_zsa_v10 (nzc - 1))) (_ : xsi = (min int_xsa_v9 (nxc - 1))) (_ : 0 ≤ int_xsa_v9) (_ : int_xsa_v9 ≤ nxc) (_ : 0 ≤ int_zsa_v10) (_ : int_zsa_v10 ≤ nzc) (_ : iflag = 2) (_ : j ≤ (xsi - 1)) (_ : (-1) < j) :
    (0 ≤ zsi ∧ zsi < (nzc + 1)) ∧ (0 ≤ j ∧ j < (nxc + 1)) ∧ (0 ≤ 0 ∧ 0 < 2) := ⟨Idx.srcCell_node, by lia, by decide⟩

theorem fteik2d_fteik2d_L499c20_ctx0 (i iflag int_xsa int_xsa_v9 int_zsa int_zsa_v10 j nxc nzc sgntx sgntz xsi zsi : Int) (_ : 1 ≤ nzc) (_ : 1 ≤ nxc) (_ : 0 ≤ int_zsa) (_ : int_zsa ≤ nzc) (_ : 0 ≤ int_xsa) (_ : int_xsa ≤ nxc) (_ : -1 ≤ sgntz) (_ : sgntz ≤ 1) (_ : -1 ≤ sgntx) (_ : sgntx ≤ 1) (_ : sgntz = 1 → 1 ≤ i) (_ : sgntz = -1 → i ≤ nzc - 1) (_ : sgntx = 1 → 1 ≤ j) (_ : sgntx = -1 → j ≤ nxc - 1) (_ : zsi = (min int_zsa_v10 (nzc - 1))) (_ : xsi = (min int_xsa_v9 (nxc - 1))) (_ : 0 ≤ int_xsa_v9) (_ : int_xsa_v9 ≤ nxc) (_ : 0 ≤ int_zsa_v10) (_ : int_zsa_v10 ≤ nzc) (_ : iflag = 2) (_ : j ≤ (xsi - 1)) (_ : (-1) < j) :
    (0 ≤ zsi ∧ zsi < (nzc + 1)) ∧ (0 ≤ j ∧ j < (nxc + 1)) ∧ (0 ≤ 1 ∧ 1 < 2) := ⟨Idx.srcCell_node, by lia, by decide⟩

theorem fteik2d_fteik2d_L504c8_ctx0 (i iflag int_xsa int_xsa_v9 int_zsa int_zsa_v10 j nxc nzc sgntx sgntz xsi zsi : Int) (_ : 1 ≤ nzc) (_ : 1 ≤ nxc) (_ : 0 ≤ int_zsa) (_ : int_zsa ≤ nzc) (_ : 0 ≤ int_xsa) (_ : int_xsa ≤ nxc) (_ : -1 ≤ sgntz) (_ : sgntz ≤ 1) (_ : -1 ≤ sgntx) (_ : sgntx ≤ 1) (_ : sgntz = 1 → 1 ≤ i) (_ : sgntz = -1 → i ≤ nzc - 1) (_ : sgntx = 1 → 1 ≤ j) (_ : sgntx = -1 → j ≤ nxc - 1) (_ : zsi = (min int_zsa_v10 (nzc - 1))) (_ : xsi = (min int_xsa_v9 (nxc - 1))) (_ : 0 ≤ int_xsa_v9) (_ : int_xsa_v9 ≤ nxc) (_ : 0 ≤ int_zsa_v10) (_ : int_zsa_v10 ≤ nzc) (_ : iflag = 2) :
    (0 ≤ (zsi + 1) ∧ (zsi + 1) < (max (nzc + 1) (nxc + 1))) := by lia

theorem fteik2d_fteik2d_L506c19_ctx0 (i iflag int_xsa int_xsa_v9 int_zsa int_zsa_v10 j nxc nzc sgntx sgntz xsi zsi : Int) (_ : 1 ≤ nzc) (_ : 1 ≤ nxc) (_ : 0 ≤ int_zsa) (_ : int_zsa ≤ nzc) (_ : 0 ≤ int_xsa) (_ : int_xsa ≤ nxc) (_ : -1 ≤ sgntz) (_ : sgntz ≤ 1) (_ : -1 ≤ sgntx) (_ : sgntx ≤ 1) (_ : sgntz = 1 → 1 ≤ i) (_ : sgntz = -1 → i ≤ nzc - 1) (_ : sgntx = 1 → 1 ≤ j) (_ : sgntx = -1 → j ≤ nxc - 1) (_ : zsi = (min int_zsa_v10 (nzc - 1))) (_ : xsi = (min int_xsa_v9 (nxc - 1))) (_ : 0 ≤ int_xsa_v9) (_ : int_xsa_v9 ≤ nxc) (_ : 0 ≤ int_zsa_v10) (_ : int_zsa_v10 ≤ nzc) (_ : iflag = 2) (_ : (zsi + 2) ≤ i) (_ : i < (nzc + 1)) :
    (0 ≤ (i - 1) ∧ (i - 1) < nzc) ∧ (0 ≤ xsi ∧ xsi < nxc) := ⟨by lia, Idx.srcCell⟩

theorem fteik2d_fteik2d_L507c12_ctx0 (i iflag int_xsa int_xsa_v9 int_zsa int_zsa_v10 j nxc nzc sgntx sgntz xsi zsi : Int) (_ : 1 ≤ nzc) (_ : 1 ≤ nxc) (_ : 0 ≤ int_zsa) (_ : int_zsa ≤ nzc) (_ : 0 ≤ int_xsa) (_ : int_xsa ≤ nxc) (_ : -1 ≤ sgntz) (_ : sgntz ≤ 1) (_ : -1 ≤ sgntx) (_ : sgntx ≤ 1) (_ : sgntz = 1 → 1 ≤ i) (_ : sgntz = -1 → i ≤ nzc - 1) (_ : sgntx = 1 → 1 ≤ j) (_ : sgntx = -1 → j ≤ nxc - 1) (_ : zsi = (min int_zsa_v10 (nzc - 1))) (_ : xsi = (min int_xsa_v9 (nxc - 1))) (_ : 0 ≤ int_xsa_v9) (_ : int_xsa_v9 ≤ nxc) (_ : 0 ≤ int_zsa_v10) (_ : int_zsa_v10 ≤ nzc) (_ : iflag = 2) (_ : (zsi + 2) ≤ i) (_ : i < (nzc + 1)) :
    (0 ≤ i ∧ i < (max (nzc + 1) (nxc + 1))) := by lia

theorem fteik2d_fteik2d_L507c20_ctx0 (i iflag int_xsa int_xsa_v9 int_zsa int_zsa_v10 j nxc nzc sgntx sgntz xsi zsi : Int) (_ : 1 ≤ nzc) (_ : 1 ≤ nxc) (_ : 0 ≤ int_zsa) (_ : int_zsa ≤ nzc) (_ : 0 ≤ int_xsa) (_ : int_xsa ≤ nxc) (_ : -1 ≤ sgntz) (_ : sgntz ≤ 1) (_ : -1 ≤ sgntx) (_ : sgntx ≤ 1) (_ : sgntz = 1 → 1 ≤ i) (_ : sgntz = -1 → i ≤ nzc - 1) (_ : sgntx = 1 → 1 ≤ j) (_ : sgntx = -1 → j ≤ nxc - 1) (_ : zsi = (min int_zsa_v10 (nzc - 1))) (_ : xsi = (min int_xsa_v9 (nxc - 1))) (_ : 0 ≤ int_xsa_v9) (_ : int_xsa_v9 ≤ nxc) (_ : 0 ≤ int_zsa_v10) (_ : int_zsa_v10 ≤ nzc) (_ : iflag = 2) (_ : (zsi + 2) ≤ i) (_ : i < (nzc + 1)) :
    (0 ≤ (i - 1) ∧ (i - 1) < (max (nzc + 1) (nxc + 1))) := by lia

theorem fteik2d_fteik2d_L508c19_ctx0 (i iflag int_xsa int_xsa_v9 int_zsa int_zsa_v10 j nxc nzc sgntx sgntz xsi zsi : Int) (_ : 1 ≤ nzc) (_ : 1 ≤ nxc) (_ : 0 ≤ int_zsa) (_ : int_zsa ≤ nzc) (_ : 0 ≤ int_xsa) (_ : int_xsa ≤ nxc) (_ : -1 ≤ sgntz) (_ : sgntz ≤ 1) (_ : -1 ≤ sgntx) (_ : sgntx ≤ 1) (_ : sgntz = 1 → 1 ≤ i) (_ : sgntz = -1 → i ≤ nzc - 1) (_ : sgntx = 1 → 1 ≤ j) (_ : sgntx = -1 → j ≤ nxc - 1) (_ : zsi = (min int_zsa_v10 (nzc - 1))) (_ : xsi = (min int_xsa_v9 (nxc - 1))) (_ : 0 ≤ int_xsa_v9) (_ : int_xsa_v9 ≤ nxc) (_ : 0 ≤ int_zsa_v10) (_ : int_zsa_v10 ≤ nzc) (_ : iflag = 2) (_ : (zsi + 2) ≤ i) (_ : i < (nzc + 1)) :
    (0 ≤ i ∧ i < (max (nzc + 1) (nxc + 1))) := by lia

theorem fteik2d_fteik2d_L509c20_ctx0 (i iflag int_xsa int_xsa_v9 int_zsa int_zsa_v10 j nxc nzc sgntx sgntz xsi zsi : Int) (_ : 1 ≤ nzc) (_ : 1 ≤ nxc) (_ : 0 ≤ int_zsa) (_ : int_zsa ≤ nzc) (_ : 0 ≤ int_xsa) (_ : int_xsa ≤ nxc) (_ : -1 ≤ sgntz) (_ : sgntz ≤ 1) (_ : -1 ≤ sgntx) (_ : sgntx ≤ 1) (_ : sgntz = 1 → 1 ≤ i) (_ : sgntz = -1 → i ≤ nzc - 1) (_ : sgntx = 1 → 1 ≤ j) (_ : sgntx = -1 → j ≤ nxc - 1) (_ : zsi = (min int_zsa_v10 (nzc - 1))) (_ : xsi = (min int_xsa_v9 (nxc - 1))) (_ : 0 ≤ int_xsa_v9) (_ : int_xsa_v9 ≤ nxc) (_ : 0 ≤ int_zsa_v10) (_ : int_zsa_v10 ≤ nzc) (_ : iflag = 2) (_ : (zsi + 2) ≤ i) (_ : i < (nzc + 1)) :
    (0 ≤ (i - 1) ∧ (i - 1) < (max (nzc + 1) (nxc + 1))) := by lia

theorem fteik2d_fteik2d_L514c23_ctx0 (i iflag int_xsa int_xsa_v9 int_zsa int_zsa_v10 j nxc nzc sgntx sgntz xsi zsi : Int) (_ : 1 ≤ nzc) (_ : 1 ≤ nxc) (_ : 0 ≤ int_zsa) (_ : int_zsa ≤ nzc) (_ : 0 ≤ int_xsa) (_ : int_xsa ≤ nxc) (_ : -1 ≤ sgntz) (_ : sgntz ≤ 1) (_ : -1 ≤ sgntx) (_ : sgntx ≤ 1) (_ : sgntz = 1 → 1 ≤ i) (_ : sgntz = -1 → i ≤ nzc - 1) (_ : sgntx = 1 → 1 ≤ j) (_ : sgntx = -1 → j ≤ nxc - 1) (_ : zsi = (min int_zsa_v10 (nzc - 1))) (_ : xsi = (min int_xsa_v9 (nxc - 1))) (_ : 0 ≤ int_xsa_v9) (_ : int_xsa_v9 ≤ nxc) (_ : 0 ≤ int_zsa_v10) (_ : int_zsa_v10 ≤ nzc) (_ : iflag = 2) (_ : (zsi + 2) ≤ i) (_ : i < (nzc + 1)) :
    (0 ≤ (i - 1) ∧ (i - 1) < (nzc + 1)) ∧ (0 ≤ (xsi + 1) ∧ (xsi + 1) < (nxc + 1)) := ⟨by lia, Idx.srcCell_succ⟩

theorem fteik2d_fteik2d_L518c16_ctx0 (i iflag int_xsa int_xsa_v9 int_zsa int_zsa_v10 j nxc nzc sgntx sgntz xsi zsi : Int) (_ : 1 ≤ nzc) (_ : 1 ≤ nxc) (_ : 0 ≤ int_zsa) (_ : int_zsa ≤ nzc) (_ : 0 ≤ int_xsa) (_ : int_xsa ≤ nxc) (_ : -1 ≤ sgntz) (_ : sgntz ≤ 1) (_ : -1 ≤ sgntx) (_ : sgntx ≤ 1) (_ : sgntz = 1 → 1 ≤ i) (_ : sgntz = -1 → i ≤ nzc - 1) (_ : sgntx = 1 → 1 ≤ j) (_ : sgntx = -1 → j ≤ nxc - 1) (_ : zsi = (min int_zsa_v10 (nzc - 1))) (_ : xsi = (min int_xsa_v9 (nxc - 1))) (_ : 0 ≤ int_xsa_v9) (_ : int_xsa_v9 ≤ nxc) (_ : 0 ≤ int_zsa_v10) (_ : int_zsa_v10 ≤ nzc) (_ : iflag = 2) (_ : (zsi + 2) ≤ i) (_ : i < (nzc + 1)) :
    (0 ≤ i ∧ i < (nzc + 1)) ∧ (0 ≤ (xsi + 1) ∧ (xsi + 1) < (nxc + 1)) := ⟨by lia, Idx.srcCell_succ⟩

theorem fteik2d_fteik2d_L519c20_ctx0 (i iflag int_xsa int_xsa_v9 int_zsa int_zsa_v10 j nxc nzc sgntx sgntz xsi zsi : Int) (_ : 1 ≤ nzc) (_ : 1 ≤ nxc) (_ : 0 ≤ int_zsa) (_ : int_zsa ≤ nzc) (_ : 0 ≤ int_xsa) (_ : int_xsa ≤ nxc) (_ : -1 ≤ sgntz) (_ : sgntz ≤ 1) (_ : -1 ≤ sgntx) (_ : sgntx ≤ 1) (_ : sgntz = 1 → 1 ≤ i) (_ : sgntz = -1 → i ≤ nzc - 1) (_ : sgntx = 1 → 1 ≤ j) (_ : sgntx = -1 → j ≤ nxc - 1) (_ : zsi = (min int_zsa_v10 (nzc - 1))) (_ : xsi = (min int_xsa_v9 (nxc - 1))) (_ : 0 ≤ int_xsa_v9) (_ : int_xsa_v9 ≤ nxc) (_ : 0 ≤ int_zsa_v10) (_ : int_zsa_v10 ≤ nzc) (_ : iflag = 2) (_ : (zsi + 2) ≤ i) (_ : i < (nzc + 1)) :
    (0 ≤ i ∧ i < (nzc + 1)) ∧ (0 ≤ (xsi + 1) ∧ (xsi + 1) < (nxc + 1)) := ⟨by lia, Idx.srcCell_succ⟩

theorem fteik2d_fteik2d_L536c20_ctx0 (i iflag int_xsa int_xsa_v9 int_zsa int_zsa_v10 j nxc nzc sgntx sgntz xsi zsi : Int) (_ : 1 ≤ nzc) (_ : 1 ≤ nxc) (_ : 0 ≤ int_zsa) (_ : int_zsa ≤ nzc) (_ : 0 ≤ int_xsa) (_ : int_xsa ≤ nxc) (_ : -1 ≤ sgntz) (_ : sgntz ≤ 1) (_ : -1 ≤ sgntx) (_ : sgntx ≤ 1) (_ : sgntz = 1 → 1 ≤ i) (_ : sgntz = -1 → i ≤ nzc - 1) (_ : sgntx = 1 → 1 ≤ j) (_ : sgntx = -1 → j ≤ nxc - 1) (_ : zsi = (min int_zsa_v10 (nzc - 1))) (_ : xsi = (min int_xsa_v9 (nxc - 1))) (_ : 0 ≤ int_xsa_v9) (_ : int_xsa_v9 ≤ nxc) (_ : 0 ≤ int_zsa_v10) (_ : int_zsa_v10 ≤ nzc) (_ : iflag = 2) (_ : (zsi + 2) ≤ i) (_ : i < (nzc + 1)) :
    (0 ≤ i ∧ i < (nzc + 1)) ∧ (0 ≤ (xsi + 1) ∧ (xsi + 1) < (nxc + 1)) ∧ (0 ≤ 0 ∧ 0 < 2) := ⟨by lia, Idx.srcCell_succ, by decide⟩

theorem fteik2d_fteik2d_L537c20_ctx0 (i iflag int_xsa int_xsa_v9 int_zsa int_zsa_v10 j nxc nzc sgntx sgntz xsi zsi : Int) (_ : 1 ≤ nzc) (_ : 1 ≤ nxc) (_ : 0 ≤ int_zsa) (_ : int_zsa ≤ nzc) (_ : 0 ≤ int_xsa) (_ : int_xsa ≤ nxc) (_ : -1 ≤ sgntz) (_ : sgntz ≤ 1) (_ : -1 ≤ sgntx) (_ : sgntx ≤ 1) (_ : sgntz = 1 → 1 ≤ i) (_ : sgntz = -1 → i ≤ nzc - 1) (_ : sgntx = 1 → 1 ≤ j) (_ : sgntx = -1 → j ≤ nxc - 1) (_ : zsi = (min int_zsa_v10 (nzc - 1))) (_ : xsi = (min int_xsa_v9 (nxc - 1))) (_ : 0 ≤ int_xsa_v9) (_ : int_xsa_v9 ≤ nxc) (_ : 0 ≤ int_zsa_v10) (_ : int_zsa_v10 ≤ nzc) (_ : iflag = 2) (_ : (zsi + 2) ≤ i) (_ : i < (nzc + 1)) :
    (0 ≤ i ∧ i < (nzc + 1)) ∧ (0 ≤ (xsi + 1) ∧ (xsi + 1) < (nxc + 1)) ∧ (0 ≤ 1 ∧ 1 < 2) := ⟨by lia, Idx.srcCell_succ, by decide⟩

theorem fteik2d_fteik2d_L542c23_ctx0 (i iflag int_xsa int_xsa_v9 int_zsa int_zsa_v10 j nxc nzc sgntx sgntz xsi zsi : Int) (_ : 1 ≤ nzc) (_ : 1 ≤ nxc) (_ : 0 ≤ int_zsa) (_ : int_zsa ≤ nzc) (_ : 0 ≤ int_xsa) (_ : int_xsa ≤ nxc) (_ : -1 ≤ sgntz) (_ : sgntz ≤ 1) (_ : -1 ≤ sgntx) (_ : sgntx ≤ 1) (_ : sgntz = 1 → 1 ≤ i) (_ : sgntz = -1 → i ≤ nzc - 1) (_ : sgntx = 1 → 1 ≤ j) (_ : sgntx = -1 → j ≤ nxc - 1) (_ : zsi = (min int_zsa_v10 (nzc - 1))) (_ : xsi = (min int_xsa_v9 (nxc - 1))) (_ : 0 ≤ int_xsa_v9) (_ : int_xsa_v9 ≤ nxc) (_ : 0 ≤ int_zsa_v10) (_ : int_zsa_v10 ≤ nzc) (_ : iflag = 2) (_ : (zsi + 2) ≤ i) (_ : i < (nzc + 1)) :
    (0 ≤ (i - 1) ∧ (i - 1) < (nzc + 1)) ∧ (0 ≤ xsi ∧ xsi < (nxc + 1)) := ⟨by lia, Idx.srcCell_node⟩

theorem fteik2d_fteik2d_L544c16_ctx0 (i iflag int_xsa int_xsa_v9 int_zsa int_zsa_v10 j nxc nzc sgntx sgntz xsi zsi : Int) (_ : 1 ≤ nzc) (_ : 1 ≤ nxc) (_ : 0 ≤ int_zsa) (_ : int_zsa ≤ nzc) (_ : 0 ≤ int_xsa) (_ : int_xsa ≤ nxc) (_ : -1 ≤ sgntz) (_ : sgntz ≤ 1) (_ : -1 ≤ sgntx) (_ : sgntx ≤ 1) (_ : sgntz = 1 → 1 ≤ i) (_ : sgntz = -1 → i ≤ nzc - 1) (_ : sgntx = 1 → 1 ≤ j) (_ : sgntx = -1 → j ≤ nxc - 1) (_ : zsi = (min int_zsa_v10 (nzc - 1))) (_ : xsi = (min int_xsa_v9 (nxc - 1))) (_ : 0 ≤ int_xsa_v9) (_ : int_xsa_v9 ≤ nxc) (_ : 0 ≤ int_zsa_v10) (_ : int_zsa_v10 ≤ nzc) (_ : iflag = 2) (_ : (zsi + 2) ≤ i) (_ : i < (nzc + 1)) :
    (0 ≤ i ∧ i < (nzc + 1)) ∧ (0 ≤ xsi ∧ xsi < (nxc + 1)) := ⟨by lia, Idx.srcCell_node⟩

theorem fteik2d_fteik2d_L545c20_ctx0 (i iflag int_xsa int_xsa_v9 int_zsa int_zsa_v10 j nxc nzc sgntx sgntz xsi zsi : Int) (_ : 1 ≤ nzc) (_ : 1 ≤ nxc) (_ : 0 ≤ int_zsa) (_ : int_zsa ≤ nzc) (_ : 0 ≤ int_xsa) (_ : int_xsa ≤ nxc) (_ : -1 ≤ sgntz) (_ : sgntz ≤ 1) (_ : -1 ≤ sgntx) (_ : sgntx ≤ 1) (_ : sgntz = 1 → 1 ≤ i) (_ : sgntz = -1 → i ≤ nzc - 1) (_ : sgntx = 1 → 1 ≤ j) (_ : sgntx = -1 → j ≤ nxc - 1) (_ : zsi = (min int_zsa_v10 (nzc - 1))) (_ : xsi = (min int_xsa_v9 (nxc - 1))) (_ : 0 ≤ int_xsa_v9) (_ : int_xsa_v9 ≤ nxc) (_ : 0 ≤ int_zsa_v10) (_ : int_zsa_v10 ≤ nzc) (_ : iflag = 2) (_ : (zsi + 2) ≤ i) (_ : i < (nzc + 1)) :
    (0 ≤ i ∧ i < (nzc + 1)) ∧ (0 ≤ xsi ∧ xsi < (nxc + 1)) := ⟨by lia, Idx.srcCell_node⟩

theorem fteik2d_fteik2d_L562c20_ctx0 (i iflag int_xsa int_xsa_v9 int_zsa int_zsa_v10 j nxc nzc sgntx sgntz xsi zsi : Int) (_ : 1 ≤ nzc) (_ : 1 ≤ nxc) (_ : 0 ≤ int_zsa) (_ : int_zsa ≤ nzc) (_ : 0 ≤ int_xsa) (_ : int_xsa ≤ nxc) (_ : -1 ≤ sgntz) (_ : sgntz ≤ 1) (_ : -1 ≤ sgntx) (_ : sgntx ≤ 1) (_ : sgntz = 1 → 1 ≤ i) (_ : sgntz = -1 → i ≤ nzc - 1) (_ : sgntx = 1 → 1 ≤ j) (_ : sgntx = -1 → j ≤ nxc - 1) (_ : zsi = (min int_zsa_v10 (nzc - 1))) (_ : xsi = (min int_xsa_v9 (nxc - 1))) (_ : 0 ≤ int_xsa_v9) (_ : int_xsa_v9 ≤ nxc) (_ : 0 ≤ int_zsa_v10) (_ : int_zsa_v10 ≤ nzc) (_ : iflag = 2) (_ : (zsi + 2) ≤ i) (_ : i < (nzc + 1)) :
    (0 ≤ i ∧ i < (nzc + 1)) ∧ (0 ≤ xsi ∧ xsi < (nxc + 1)) ∧ (0 ≤ 0 ∧ 0 < 2) := ⟨by lia, Idx.srcCell_node, by decide⟩

theorem fteik2d_fteik2d_L563c20_ctx0 (i iflag int_xsa int_xsa_v9 int_zsa int_zsa_v10 j nxc nzc sgntx sgntz xsi zsi : Int) (_ : 1 ≤ nzc) (_ : 1 ≤ nxc) (_ : 0 ≤ int_zsa) (_ : int_zsa ≤ nzc) (_ : 0 ≤ int_xsa) (_ : int_xsa ≤ nxc) (_ : -1 ≤ sgntz) (_ : sgntz ≤ 1) (_ : -1 ≤ sgntx) (_ : sgntx ≤ 1) (_ : sgntz = 1 → 1 ≤ i) (_ : sgntz = -1 → i ≤ nzc - 1) (_ : sgntx = 1 → 1 ≤ j) (_ : sgntx = -1 → j ≤ nxc - 1) (_ : zsi = (min int_zsa_v10 (nzc - 1))) (_ : xsi = (min int_xsa_v9 (nxc - 1))) (_ : 0 ≤ int_xsa_v9) (_ : int_xsa_v9 ≤ nxc) (_ : 0 ≤ int_zsa_v10) (_ : int_zsa_v10 ≤ nzc) (_ : iflag = 2) (_ : (zsi + 2) ≤ i) (_ : i < (nzc + 1)) :
    (0 ≤ i ∧ i < (nzc + 1)) ∧ (0 ≤ xsi ∧ xsi < (nxc + 1)) ∧ (0 ≤ 1 ∧ 1 < 2) := ⟨by lia, Idx.srcCell_node, by decide⟩

theorem fteik2d_fteik2d_L565c8_ctx0 (i iflag int_xsa int_xsa_v9 int_zsa int_zsa_v10 j nxc nzc sgntx sgntz xsi zsi : Int) (_ : 1 ≤ nzc) (_ : 1 ≤ nxc) (_ : 0 ≤ int_zsa) (_ : int_zsa ≤ nzc) (_ : 0 ≤ int_xsa) (_ : int_xsa ≤ nxc) (_ : -1 ≤ sgntz) (_ : sgntz ≤ 1) (_ : -1 ≤ sgntx) (_ : sgntx ≤ 1) (_ : sgntz = 1 → 1 ≤ i) (_ : sgntz = -1 → i ≤ nzc - 1) (_ : sgntx = 1 → 1 ≤ j) (_ : sgntx = -1 → j ≤ nxc - 1) (_ : zsi = (min int_zsa_v10 (nzc - 1))) (_ : xsi = (min int_xsa_v9 (nxc - 1))) (_ : 0 ≤ int_xsa_v9) (_ : int_xsa_v9 ≤ nxc) (_ : 0 ≤ int_zsa_v10) (_ : int_zsa_v10 ≤ nzc) (_ : iflag = 2) :
    (0 ≤ zsi ∧ zsi < (max (nzc + 1) (nxc + 1))) := by lia

theorem fteik2d_fteik2d_L567c19_ctx0 (i iflag int_xsa int_xsa_v9 int_zsa int_zsa_v10 j nxc nzc sgntx sgntz xsi zsi : Int) (_ : 1 ≤ nzc) (_ : 1 ≤ nxc) (_ : 0 ≤ int_zsa) (_ : int_zsa ≤ nzc) (_ : 0 ≤ int_xsa) (_ : int_xsa ≤ nxc) (_ : -1 ≤ sgntz) (_ : sgntz ≤ 1) (_ : -1 ≤ sgntx) (_ : sgntx ≤ 1) (_ : sgntz = 1 → 1 ≤ i) (_ : sgntz = -1 → i ≤ nzc - 1) (_ : sgntx = 1 → 1 ≤ j) (_ : sgntx = -1 → j ≤ nxc - 1) (_ : zsi = (min int_zsa_v10 (nzc - 1))) (_ : xsi = (min int_xsa_v9 (nxc - 1))) (_ : 0 ≤ int_xsa_v9) (_ : int_xsa_v9 ≤ nxc) (_ : 0 ≤ int_zsa_v10) (_ : int_zsa_v10 ≤ nzc) (_ : iflag = 2) (_ : i ≤ (zsi - 1)) (_ : (-1) < i) :
    (0 ≤ i ∧ i < nzc) ∧ (0 ≤ xsi ∧ xsi < nxc) := ⟨by lia, Idx.srcCell⟩

theorem fteik2d_fteik2d_L568c12_ctx0 (i iflag int_xsa int_xsa_v9 int_zsa int_zsa_v10 j nxc nzc sgntx sgntz xsi zsi : Int) (_ : 1 ≤ nzc) (_ : 1 ≤ nxc) (_ : 0 ≤ int_zsa) (_ : int_zsa ≤ nzc) (_ : 0 ≤ int_xsa) (_ : int_xsa ≤ nxc) (_ : -1 ≤ sgntz) (_ : sgntz ≤ 1) (_ : -1 ≤ sgntx) (_ : sgntx ≤ 1) (_ : sgntz = 1 → 1 ≤ i) (_ : sgntz = -1 → i ≤ nzc - 1) (_ : sgntx = 1 → 1 ≤ j) (_ : sgntx = -1 → j ≤ nxc - 1) (_ : zsi = (min int_zsa_v10 (nzc - 1))) (_ : xsi = (min int_xsa_v9 (nxc - 1))) (_ : 0 ≤ int_xsa_v9) (_ : int_xsa_v9 ≤ nxc) (_ : 0 ≤ int_zsa_v10) (_ : int_zsa_v10 ≤ nzc) (_ : iflag = 2) (_ : i ≤ (zsi - 1)) (_ : (-1) < i) :
    (0 ≤ i ∧ i < (max (nzc + 1) (nxc + 1))) := by lia

theorem fteik2d_fteik2d_L568c20_ctx0 (i iflag int_xsa int_xsa_v9 int_zsa int_zsa_v10 j nxc nzc sgntx sgntz xsi zsi : Int) (_ : 1 ≤ nzc) (_ : 1 ≤ nxc) (_ : 0 ≤ int_zsa) (_ : int_zsa ≤ nzc) (_ : 0 ≤ int_xsa) (_ : int_xsa ≤ nxc) (_ : -1 ≤ sgntz) (_ : sgntz ≤ 1) (_ : -1 ≤ sgntx) (_ : sgntx ≤ 1) (_ : sgntz = 1 → 1 ≤ i) (_ : sgntz = -1 → i ≤ nzc - 1) (_ : sgntx = 1 → 1 ≤ j) (_ : sgntx = -1 → j ≤ nxc - 1) (_ : zsi = (min int_zsa_v10 (nzc - 1))) (_ : xsi = (min int_xsa_v9 (nxc - 1))) (_ : 0 ≤ int_xsa_v9) (_ : int_xsa_v9 ≤ nxc) (_ : 0 ≤ int_zsa_v10) (_ : int_zsa_v10 ≤ nzc) (_ : iflag = 2) (_ : i ≤ (zsi - 1)) (_ : (-1) < i) :
    (0 ≤ (i + 1) ∧ (i + 1) < (max (nzc + 1) (nxc + 1))) := by lia

theorem fteik2d_fteik2d_L569c19_ctx0 (i iflag int_xsa int_xsa_v9 int_zsa int_zsa_v10 j nxc nzc sgntx sgntz xsi zsi : Int) (_ : 1 ≤ nzc) (_ : 1 ≤ nxc) (_ : 0 ≤ int_zsa) (_ : int_zsa ≤ nzc) (_ : 0 ≤ int_xsa) (_ : int_xsa ≤ nxc) (_ : -1 ≤ sgntz) (_ : sgntz ≤ 1) (_ : -1 ≤ sgntx) (_ : sgntx ≤ 1) (_ : sgntz = 1 → 1 ≤ i) (_ : sgntz = -1 → i ≤ nzc - 1) (_ : sgntx = 1 → 1 ≤ j) (_ : sgntx = -1 → j ≤ nxc - 1) (_ : zsi = (min int_zsa_v10 (nzc - 1))) (_ : xsi = (min int_xsa_v9 (nxc - 1))) (_ : 0 ≤ int_xsa_v9) (_ : int_xsa_v9 ≤ nxc) (_ : 0 ≤ int_zsa_v10) (_ : int_zsa_v10 ≤ nzc) (_ : iflag = 2) (_ : i ≤ (zsi - 1)) (_ : (-1) < i) :
    (0 ≤ i ∧ i < (max (nzc + 1) (nxc + 1))) := by lia

theorem fteik2d_fteik2d_L570c20_ctx0 (i iflag int_xsa int_xsa_v9 int_zsa int_zsa_v10 j nxc nzc sgntx sgntz xsi zsi : Int) (_ : 1 ≤ nzc) (_ : 1 ≤ nxc) (_ : 0 ≤ int_zsa) (_ : int_zsa ≤ nzc) (_ : 0 ≤ int_xsa) (_ : int_xsa ≤ nxc) (_ : -1 ≤ sgntz) (_ : sgntz ≤ 1) (_ : -1 ≤ sgntx) (_ : sgntx ≤ 1) (_ : sgntz = 1 → 1 ≤ i) (_ : sgntz = -1 → i ≤ nzc - 1) (_ : sgntx = 1 → 1 ≤ j) (_ : sgntx = -1 → j ≤ nxc - 1) (_ : zsi = (min int_zsa_v10 (nzc - 1))) (_ : xsi = (min int_xsa_v9 (nxc - 1))) (_ : 0 ≤ int_xsa_v9) (_ : int_xsa_v9 ≤ nxc) (_ : 0 ≤ int_zsa_v10) (_ : int_zsa_v10 ≤ nzc) (_ : iflag = 2) (_ : i ≤ (zsi - 1)) (_ : (-1) < i) :
    (0 ≤ (i + 1) ∧ (i + 1) < (max (nzc + 1) (nxc + 1))) := by lia

theorem fteik2d_fteik2d_L575c23_ctx0 (i iflag int_xsa int_xsa_v9 int_zsa int_zsa_v10 j nxc nzc sgntx sgntz xsi zsi : Int) (_ : 1 ≤ nzc) (_ : 1 ≤ nxc) (_ : 0 ≤ int_zsa) (_ : int_zsa ≤ nzc) (_ : 0 ≤ int_xsa) (_ : int_xsa ≤ nxc) (_ : -1 ≤ sgntz) (_ : sgntz ≤ 1) (_ : -1 ≤ sgntx) (_ : sgntx ≤ 1) (_ : sgntz = 1 → 1 ≤ i) (_ : sgntz = -1 → i ≤ nzc - 1) (_ : sgntx = 1 → 1 ≤ j) (_ : sgntx = -1 → j ≤ nxc - 1) (_ : zsi = (min int_zsa_v10 (nzc - 1))) (_ : xsi = (min int_xsa_v9 (nxc - 1))) (_ : 0 ≤ int_xsa_v9) (_ : int_xsa_v9 ≤ nxc) (_ : 0 ≤ int_zsa_v10) (_ : int_zsa_v10 ≤ nzc) (_ : iflag = 2) (_ : i ≤ (zsi - 1)) (_ : (-1) < i) :
    (0 ≤ (i + 1) ∧ (i + 1) < (nzc + 1)) ∧ (0 ≤ (xsi + 1) ∧ (xsi + 1) < (nxc + 1)) := ⟨by lia, Idx.srcCell_succ⟩

theorem fteik2d_fteik2d_L579c16_ctx0 (i iflag int_xsa int_xsa_v9 int_zsa int_zsa_v10 j nxc nzc sgntx sgntz xsi zsi : Int) (_ : 1 ≤ nzc) (_ : 1 ≤ nxc) (_ : 0 ≤ int_zsa) (_ : int_zsa ≤ nzc) (_ : 0 ≤ int_xsa) (_ : int_xsa ≤ nxc) (_ : -1 ≤ sgntz) (_ : sgntz ≤ 1) (_ : -1 ≤ sgntx) (_ : sgntx ≤ 1) (_ : sgntz = 1 → 1 ≤ i) (_ : sgntz = -1 → i ≤ nzc - 1) (_ : sgntx = 1 → 1 ≤ j) (_ : sgntx = -1 → j ≤ nxc - 1) (_ : zsi = (min int_zsa_v10 (nzc - 1))) (_ : xsi = (min int_xsa_v9 (nxc - 1))) (_ : 0 ≤ int_xsa_v9) (_ : int_xsa_v9 ≤ nxc) (_ : 0 ≤ int_zsa_v10) (_ : int_zsa_v10 ≤ nzc) (_ : iflag = 2) (_ : i ≤ (zsi - 1)) (_ : (-1) < i) :
    (0 ≤ i ∧ i < (nzc + 1)) ∧ (0 ≤ (xsi + 1) ∧ (xsi + 1) < (nxc + 1)) := ⟨by lia, Idx.srcCell_succ⟩

theorem fteik2d_fteik2d_L580c20_ctx0 (i iflag int_xsa int_xsa_v9 int_zsa int_zsa_v10 j nxc nzc sgntx sgntz xsi zsi : Int) (_ : 1 ≤ nzc) (_ : 1 ≤ nxc) (_ : 0 ≤ int_zsa) (_ : int_zsa ≤ nzc) (_ : 0 ≤ int_xsa) (_ : int_xsa ≤ nxc) (_ : -1 ≤ sgntz) (_ : sgntz ≤ 1) (_ : -1 ≤ sgntx) (_ : sgntx ≤ 1) (_ : sgntz = 1 → 1 ≤ i) (_ : sgntz = -1 → i ≤ nzc - 1) (_ : sgntx = 1 → 1 ≤ j) (_ : sgntx = -1 → j ≤ nxc - 1) (_ : zsi = (min int_zsa_v10 (nzc - 1))) (_ : xsi = (min int_xsa_v9 (nxc - 1))) (_ : 0 ≤ int_xsa_v9) (_ : int_xsa_v9 ≤ nxc) (_ : 0 ≤ int_zsa_v10) (_ : int_zsa_v10 ≤ nzc) (_ : iflag = 2) (_ : i ≤ (zsi - 1)) (_ : (-1) < i) :
    (0 ≤ i ∧ i < (nzc + 1)) ∧ (0 ≤ (xsi + 1) ∧ (xsi + 1) < (nxc + 1)) := ⟨by lia, Idx.srcCell_succ⟩

theorem fteik2d_fteik2d_L597c20_ctx0 (i iflag int_xsa int_xsa_v9 int_zsa int_zsa_v10 j nxc nzc sgntx sgntz xsi zsi : Int) (_ : 1 ≤ nzc) (_ : 1 ≤ nxc) (_ : 0 ≤ int_zsa) (_ : int_zsa ≤ nzc) (_ : 0 ≤ int_xsa) (_ : int_xsa ≤ nxc) (_ : -1 ≤ sgntz) (_ : sgntz ≤ 1) (_ : -1 ≤ sgntx) (_ : sgntx ≤ 1) (_ : sgntz = 1 → 1 ≤ i) (_ : sgntz = -1 → i ≤ nzc - 1) (_ : sgntx = 1 → 1 ≤ j) (_ : sgntx = -1 → j ≤ nxc - 1) (_ : zsi = (min int_zsa_v10 (nzc - 1))) (_ : xsi = (min int_xsa_v9 (nxc - 1))) (_ : 0 ≤ int_xsa_v9) (_ : int_xsa_v9 ≤ nxc) (_ : 0 ≤ int_zsa_v10) (_ : int_zsa_v10 ≤ nzc) (_ : iflag = 2) (_ : i ≤ (zsi - 1)) (_ : (-1) < i) :
    (0 ≤ i ∧ i < (nzc + 1)) ∧ (0 ≤ (xsi + 1) ∧ (xsi + 1) < (nxc + 1)) ∧ (0 ≤ 0 ∧ 0 < 2) := ⟨by lia, Idx.srcCell_succ, by decide⟩

theorem fteik2d_fteik2d_L598c20_ctx0 (i iflag int_xsa int_xsa_v9 int_zsa int_zsa_v10 j nxc nzc sgntx sgntz xsi zsi : Int) (_ : 1 ≤ nzc) (_ : 1 ≤ nxc) (_ : 0 ≤ int_zsa) (_ : int_zsa ≤ nzc) (_ : 0 ≤ int_xsa) (_ : int_xsa ≤ nxc) (_ : -1 ≤ sgntz) (_ : sgntz ≤ 1) (_ : -1 ≤ sgntx) (_ : sgntx ≤ 1) (_ : sgntz = 1 → 1 ≤ i) (_ : sgntz = -1 → i ≤ nzc - 1) (_ : sgntx = 1 → 1 ≤ j) (_ : sgntx = -1 → j ≤ nxc - 1) (_ : zsi = (min int_zsa_v10 (nzc - 1))) (_ : xsi = (min int_xsa_v9 (nxc - 1))) (_ : 0 ≤ int_xsa_v9) (_ : int_xsa_v9 ≤ nxc) (_ : 0 ≤ int_zsa_v10) (_ : int_zsa_v10 ≤ nzc) (_ : iflag = 2) (_ : i ≤ (zsi - 1)) (_ : (-1) < i) :
    (0 ≤ i ∧ i < (nzc + 1)) ∧ (0 ≤ (xsi + 1) ∧ (xsi + 1) < (nxc + 1)) ∧ (0 ≤ 1 ∧ 1 < 2) := ⟨by lia, Idx.srcCell_succ, by decide⟩

theorem fteik2d_fteik2d_L603c23_ctx0 (i iflag int_xsa int_xsa_v9 int_zsa int_zsa_v10 j nxc nzc sgntx sgntz xsi zsi : Int) (_ : 1 ≤ nzc) (_ : 1 ≤ nxc) (_ : 0 ≤ int_zsa) (_ : int_zsa ≤ nzc) (_ : 0 ≤ int_xsa) (_ : int_xsa ≤ nxc) (_ : -1 ≤ sgntz) (_ : sgntz ≤ 1) (_ : -1 ≤ sgntx) (_ : sgntx ≤ 1) (_ : sgntz = 1 → 1 ≤ i) (_ : sgntz = -1 → i ≤ nzc - 1) (_ : sgntx = 1 → 1 ≤ j) (_ : sgntx = -1 → j ≤ nxc - 1) (_ : zsi = (min int_zsa_v10 (nzc - 1))) (_ : xsi = (min int_xsa_v9 (nxc - 1))) (_ : 0 ≤ int_xsa_v9) (_ : int_xsa_v9 ≤ nxc) (_ : 0 ≤ int_zsa_v10) (_ : int_zsa_v10 ≤ nzc) (_ : iflag = 2) (_ : i ≤ (zsi - 1)) (_ : (-1) < i) :
    (0 ≤ (i + 1) ∧ (i + 1) < (nzc + 1)) ∧ (0 ≤ xsi ∧ xsi < (nxc + 1)) := ⟨by lia, Idx.srcCell_node⟩

theorem fteik2d_fteik2d_L605c16_ctx0 (i iflag int_xsa int_xsa_v9 int_zsa int_zsa_v10 j nxc nzc sgntx sgntz xsi zsi : Int) (_ : 1 ≤ nzc) (_ : 1 ≤ nxc) (_ : 0 ≤ int_zsa) (_ : int_zsa ≤ nzc) (_ : 0 ≤ int_xsa) (_ : int_xsa ≤ nxc) (_ : -1 ≤ sgntz) (_ : sgntz ≤ 1) (_ : -1 ≤ sgntx) (_ : sgntx ≤ 1) (_ : sgntz = 1 → 1 ≤ i) (_ : sgntz = -1 → i ≤ nzc - 1) (_ : sgntx = 1 → 1 ≤ j) (_ : sgntx = -1 → j ≤ nxc - 1) (_ : zsi = (min int_zsa_v10 (nzc - 1))) (_ : xsi = (min int_xsa_v9 (nxc - 1))) (_ : 0 ≤ int_xsa_v9) (_ : int_xsa_v9 ≤ nxc) (_ : 0 ≤ int_zsa_v10) (_ : int_zsa_v10 ≤ nzc) (_ : iflag = 2) (_ : i ≤ (zsi - 1)) (_ : (-1) < i) :
    (0 ≤ i ∧ i < (nzc + 1)) ∧ (0 ≤ xsi ∧ xsi < (nxc + 1)) := ⟨by lia, Idx.srcCell_node⟩

theorem fteik2d_fteik2d_L606c20_ctx0 (i iflag int_xsa int_xsa_v9 int_zsa int_zsa_v10 j nxc nzc sgntx sgntz xsi zsi : Int) (_ : 1 ≤ nzc) (_ : 1 ≤ nxc) (_ : 0 ≤ int_zsa) (_ : int_zsa ≤ nzc) (_ : 0 ≤ int_xsa) (_ : int_xsa ≤ nxc) (_ : -1 ≤ sgntz) (_ : sgntz ≤ 1) (_ : -1 ≤ sgntx) (_ : sgntx ≤ 1) (_ : sgntz = 1 → 1 ≤ i) (_ : sgntz = -1 → i ≤ nzc - 1) (_ : sgntx = 1 → 1 ≤ j) (_ : sgntx = -1 → j ≤ nxc - 1) (_ : zsi = (min int_zsa_v10 (nzc - 1))) (_ : xsi = (min int_xsa_v9 (nxc - 1))) (_ : 0 ≤ int_xsa_v9) (_ : int_xsa_v9 ≤ nxc) (_ : 0 ≤ int_zsa_v10) (_ : int_zsa_v10 ≤ nzc) (_ : iflag = 2) (_ : i ≤ (zsi - 1)) (_ : (-1) < i) :
    (0 ≤ i ∧ i < (nzc + 1)) ∧ (0 ≤ xsi ∧ xsi < (nxc + 1)) := ⟨by lia, Idx.srcCell_node⟩

theorem fteik2d_fteik2d_L623c20_ctx0 (i iflag int_xsa int_xsa_v9 int_zsa int_zsa_v10 j nxc nzc sgntx sgntz xsi zsi : Int) (_ : 1 ≤ nzc) (_ : 1 ≤ nxc) (_ : 0 ≤ int_zsa) (_ : int_zsa ≤ nzc) (_ : 0 ≤ int_xsa) (_ : int_xsa ≤ nxc) (_ : -1 ≤ sgntz) (_ : sgntz ≤ 1) (_ : -1 ≤ sgntx) (_ : sgntx ≤ 1) (_ : sgntz = 1 → 1 ≤ i) (_ : sgntz = -1 → i ≤ nzc - 1) (_ : sgntx = 1 → 1 ≤ j) (_ : sgntx = -1 → j ≤ nxc - 1) (_ : zsi = (min int_zsa_v10 (nzc - 1))) (_ : xsi = (min int_xsa_v9 (nxc - 1))) (_ : 0 ≤ int_xsa_v9) (_ : int_xsa_v9 ≤ nxc) (_ : 0 ≤ int_zsa_v10) (_ : int_zsa_v10 ≤ nzc) (_ : iflag = 2) (_ : i ≤ (zsi - 1)) (_ : (-1) < i) :
    (0 ≤ i ∧ i < (nzc + 1)) ∧ (0 ≤ xsi ∧ xsi < (nxc + 1)) ∧ (0 ≤ 0 ∧ 0 < 2) := ⟨by lia, Idx.srcCell_node, by decide⟩

theorem fteik2d_fteik2d_L624c20_ctx0 (i iflag int_xsa int_xsa_v9 int_zsa int_zsa_v10 j nxc nzc sgntx sgntz xsi zsi : Int) (_ : 1 ≤ nzc) (_ : 1 ≤ nxc) (_ : 0 ≤ int_zsa) (_ : int_zsa ≤ nzc) (_ : 0 ≤ int_xsa) (_ : int_xsa ≤ nxc) (_ : -1 ≤ sgntz) (_ : sgntz ≤ 1) (_ : -1 ≤ sgntx) (_ : sgntx ≤ 1) (_ : sgntz = 1 → 1 ≤ i) (_ : sgntz = -1 → i ≤ nzc - 1) (_ : sgntx = 1 → 1 ≤ j) (_ : sgntx = -1 → j ≤ nxc - 1) (_ : zsi = (min int_zsa_v10 (nzc - 1))) (_ : xsi = (min int_xsa_v9 (nxc - 1))) (_ : 0 ≤ int_xsa_v9) (_ : int_xsa_v9 ≤ nxc) (_ : 0 ≤ int_zsa_v10) (_ : int_zsa_v10 ≤ nzc) (_ : iflag = 2) (_ : i ≤ (zsi - 1)) (_ : (-1) < i) :
    (0 ≤ i ∧ i < (nzc + 1)) ∧ (0 ≤ xsi ∧ xsi < (nxc + 1)) ∧ (0 ≤ 1 ∧ 1 < 2) := ⟨by lia, Idx.srcCell_node, by decide⟩

theorem fteik2d_fteik2d_L627c8_ctx0 (dxe dxw dzd dzh_min dzu dzv_min i iflag int_xsa int_xsa_v9 int_zsa int_zsa_v10 j nxc nzc sgntx sgntz xsi zsi : Int) (_ : 1 ≤ nzc) (_ : 1 ≤ nxc) (_ : 0 ≤ int_zsa) (_ : int_zsa ≤ nzc) (_ : 0 ≤ int_xsa) (_ : int_xsa ≤ nxc) (_ : -1 ≤ sgntz) (_ : sgntz ≤ 1) (_ : -1 ≤ sgntx) (_ : sgntx ≤ 1) (_ : sgntz = 1 → 1 ≤ i) (_ : sgntz = -1 → i ≤ nzc - 1) (_ : sgntx = 1 → 1 ≤ j) (_ : sgntx = -1 → j ≤ nxc - 1) (_ : zsi = (min int_zsa_v10 (nzc - 1))) (_ : xsi = (min int_xsa_v9 (nxc - 1))) (_ : dzv_min = (min dzu dzd)) (_ : dzh_min = (min dxw dxe)) (_ : 0 ≤ int_xsa_v9) (_ : int_xsa_v9 ≤ nxc) (_ : 0 ≤ int_zsa_v10) (_ : int_zsa_v10 ≤ nzc) (_ : ¬ (iflag = 2)) :
    (0 ≤ int_zsa ∧ int_zsa < (nzc + 1)) ∧ (0 ≤ int_xsa ∧ int_xsa < (nxc + 1)) := ⟨Idx.node, Idx.node⟩

theorem fteik2d_fteik2d_L636c24_ctx0 (i int_xsa int_xsa_v9 int_zsa int_zsa_v10 j nxc nzc sgntx sgntz xsi zsi : Int) (_ : 1 ≤ nzc) (_ : 1 ≤ nxc) (_ : 0 ≤ int_zsa) (_ : int_zsa ≤ nzc) (_ : 0 ≤ int_xsa) (_ : int_xsa ≤ nxc) (_ : -1 ≤ sgntz) (_ : sgntz ≤ 1) (_ : -1 ≤ sgntx) (_ : sgntx ≤ 1) (_ : sgntz = 1 → 1 ≤ i) (_ : sgntz = -1 → i ≤ nzc - 1) (_ : sgntx = 1 → 1 ≤ j) (_ : sgntx = -1 → j ≤ nxc - 1) (_ : zsi = (min int_zsa_v10 (nzc - 1))) (_ : xsi = (min int_xsa_v9 (nxc - 1))) (_ : 0 ≤ int_xsa_v9) (_ : int_xsa_v9 ≤ nxc) (_ : 0 ≤ int_zsa_v10) (_ : int_zsa_v10 ≤ nzc) (_ : 0 ≤ i) (_ : i < (nzc + 1)) (_ : 0 ≤ j) (_ : j < (nxc + 1)) :
    (0 ≤ i ∧ i < (nzc + 1)) ∧ (0 ≤ j ∧ j < (nxc + 1)) ∧ (0 ≤ 0 ∧ 0 < 2) := ⟨Idx.range, Idx.range, by decide⟩

theorem fteik2d_fteik2d_L638c25_ctx0 (i int_xsa int_xsa_v9 int_zsa int_zsa_v10 j nxc nzc sgntx sgntz xsi zsi : Int) (_ : 1 ≤ nzc) (_ : 1 ≤ nxc) (_ : 0 ≤ int_zsa) (_ : int_zsa ≤ nzc) (_ : 0 ≤ int_xsa) (_ : int_xsa ≤ nxc) (_ : -1 ≤ sgntz) (_ : sgntz ≤ 1) (_ : -1 ≤ sgntx) (_ : sgntx ≤ 1) (_ : sgntz = 1 → 1 ≤ i) (_ : sgntz = -1 → i ≤ nzc - 1) (_ : sgntx = 1 → 1 ≤ j) (_ : sgntx = -1 → j ≤ nxc - 1) (_ : zsi = (min int_zsa_v10 (nzc - 1))) (_ : xsi = (min int_xsa_v9 (nxc - 1))) (_ : 0 ≤ int_xsa_v9) (_ : int_xsa_v9 ≤ nxc) (_ : 0 ≤ int_zsa_v10) (_ : int_zsa_v10 ≤ nzc) (_ : 0 ≤ i) (_ : i < (nzc + 1)) (_ : 0 ≤ j) (_ : j < (nxc + 1)) (_ : sgntz ≠ 0) :
    (0 ≤ (i - sgntz) ∧ (i - sgntz) < (nzc + 1)) ∧ (0 ≤ j ∧ j < (nxc + 1)) := ⟨by lia, Idx.range⟩

theorem fteik2d_fteik2d_L639c20_ctx0 (i int_xsa int_xsa_v9 int_zsa int_zsa_v10 j nxc nzc sgntx sgntz xsi zsi : Int) (_ : 1 ≤ nzc) (_ : 1 ≤ nxc) (_ : 0 ≤ int_zsa) (_ : int_zsa ≤ nzc) (_ : 0 ≤ int_xsa) (_ : int_xsa ≤ nxc) (_ : -1 ≤ sgntz) (_ : sgntz ≤ 1) (_ : -1 ≤ sgntx) (_ : sgntx ≤ 1) (_ : sgntz = 1 → 1 ≤ i) (_ : sgntz = -1 → i ≤ nzc - 1) (_ : sgntx = 1 → 1 ≤ j) (_ : sgntx = -1 → j ≤ nxc - 1) (_ : zsi = (min int_zsa_v10 (nzc - 1))) (_ : xsi = (min int_xsa_v9 (nxc - 1))) (_ : 0 ≤ int_xsa_v9) (_ : int_xsa_v9 ≤ nxc) (_ : 0 ≤ int_zsa_v10) (_ : int_zsa_v10 ≤ nzc) (_ : 0 ≤ i) (_ : i < (nzc + 1)) (_ : 0 ≤ j) (_ : j < (nxc + 1)) (_ : sgntz ≠ 0) :
    (0 ≤ i ∧ i < (nzc + 1)) ∧ (0 ≤ j ∧ j < (nxc + 1)) ∧ (0 ≤ 0 ∧ 0 < 2) := ⟨Idx.range, Idx.range, by decide⟩

theorem fteik2d_fteik2d_L639c47_ctx0 (i int_xsa int_xsa_v9 int_zsa int_zsa_v10 j nxc nzc sgntx sgntz xsi zsi : Int) (_ : 1 ≤ nzc) (_ : 1 ≤ nxc) (_ : 0 ≤ int_zsa) (_ : int_zsa ≤ nzc) (_ : 0 ≤ int_xsa) (_ : int_xsa ≤ nxc) (_ : -1 ≤ sgntz) (_ : sgntz ≤ 1) (_ : -1 ≤ sgntx) (_ : sgntx ≤ 1) (_ : sgntz = 1 → 1 ≤ i) (_ : sgntz = -1 → i ≤ nzc - 1) (_ : sgntx = 1 → 1 ≤ j) (_ : sgntx = -1 → j ≤ nxc - 1) (_ : zsi = (min int_zsa_v10 (nzc - 1))) (_ : xsi = (min int_xsa_v9 (nxc - 1))) (_ : 0 ≤ int_xsa_v9) (_ : int_xsa_v9 ≤ nxc) (_ : 0 ≤ int_zsa_v10) (_ : int_zsa_v10 ≤ nzc) (_ : 0 ≤ i) (_ : i < (nzc + 1)) (_ : 0 ≤ j) (_ : j < (nxc + 1)) (_ : sgntz ≠ 0) :
    (0 ≤ i ∧ i < (nzc + 1)) ∧ (0 ≤ j ∧ j < (nxc + 1)) := ⟨Idx.range, Idx.range⟩

theorem fteik2d_fteik2d_L641c24_ctx0 (i int_xsa int_xsa_v9 int_zsa int_zsa_v10 j nxc nzc sgntx sgntz xsi zsi : Int) (_ : 1 ≤ nzc) (_ : 1 ≤ nxc) (_ : 0 ≤ int_zsa) (_ : int_zsa ≤ nzc) (_ : 0 ≤ int_xsa) (_ : int_xsa ≤ nxc) (_ : -1 ≤ sgntz) (_ : sgntz ≤ 1) (_ : -1 ≤ sgntx) (_ : sgntx ≤ 1) (_ : sgntz = 1 → 1 ≤ i) (_ : sgntz = -1 → i ≤ nzc - 1) (_ : sgntx = 1 → 1 ≤ j) (_ : sgntx = -1 → j ≤ nxc - 1) (_ : zsi = (min int_zsa_v10 (nzc - 1))) (_ : xsi = (min int_xsa_v9 (nxc - 1))) (_ : 0 ≤ int_xsa_v9) (_ : int_xsa_v9 ≤ nxc) (_ : 0 ≤ int_zsa_v10) (_ : int_zsa_v10 ≤ nzc) (_ : 0 ≤ i) (_ : i < (nzc + 1)) (_ : 0 ≤ j) (_ : j < (nxc + 1)) :
    (0 ≤ i ∧ i < (nzc + 1)) ∧ (0 ≤ j ∧ j < (nxc + 1)) ∧ (0 ≤ 1 ∧ 1 < 2) := ⟨Idx.range, Idx.range, by decide⟩

theorem fteik2d_fteik2d_L643c25_ctx0 (i int_xsa int_xsa_v9 int_zsa int_zsa_v10 j nxc nzc sgntx sgntz xsi zsi : Int) (_ : 1 ≤ nzc) (_ : 1 ≤ nxc) (_ : 0 ≤ int_zsa) (_ : int_zsa ≤ nzc) (_ : 0 ≤ int_xsa) (_ : int_xsa ≤ nxc) (_ : -1 ≤ sgntz) (_ : sgntz ≤ 1) (_ : -1 ≤ sgntx) (_ : sgntx ≤ 1) (_ : sgntz = 1 → 1 ≤ i) (_ : sgntz = -1 → i ≤ nzc - 1) (_ : sgntx = 1 → 1 ≤ j) (_ : sgntx = -1 → j ≤ nxc - 1) (_ : zsi = (min int_zsa_v10 (nzc - 1))) (_ : xsi = (min int_xsa_v9 (nxc - 1))) (_ : 0 ≤ int_xsa_v9) (_ : int_xsa_v9 ≤ nxc) (_ : 0 ≤ int_zsa_v10) (_ : int_zsa_v10 ≤ nzc) (_ : 0 ≤ i) (_ : i < (nzc + 1)) (_ : 0 ≤ j) (_ : j < (nxc + 1)) (_ : sgntx ≠ 0) :
    (0 ≤ i ∧ i < (nzc + 1)) ∧ (0 ≤ (j - sgntx) ∧ (j - sgntx) < (nxc + 1)) := ⟨Idx.range, by lia⟩

theorem fteik2d_fteik2d_L644c20_ctx0 (i int_xsa int_xsa_v9 int_zsa int_zsa_v10 j nxc nzc sgntx sgntz xsi zsi : Int) (_ : 1 ≤ nzc) (_ : 1 ≤ nxc) (_ : 0 ≤ int_zsa) (_ : int_zsa ≤ nzc) (_ : 0 ≤ int_xsa) (_ : int_xsa ≤ nxc) (_ : -1 ≤ sgntz) (_ : sgntz ≤ 1) (_ : -1 ≤ sgntx) (_ : sgntx ≤ 1) (_ : sgntz = 1 → 1 ≤ i) (_ : sgntz = -1 → i ≤ nzc - 1) (_ : sgntx = 1 → 1 ≤ j) (_ : sgntx = -1 → j ≤ nxc - 1) (_ : zsi = (min int_zsa_v10 (nzc - 1))) (_ : xsi = (min int_xsa_v9 (nxc - 1))) (_ : 0 ≤ int_xsa_v9) (_ : int_xsa_v9 ≤ nxc) (_ : 0 ≤ int_zsa_v10) (_ : int_zsa_v10 ≤ nzc) (_ : 0 ≤ i) (_ : i < (nzc + 1)) (_ : 0 ≤ j) (_ : j < (nxc + 1)) (_ : sgntx ≠ 0) :
    (0 ≤ i ∧ i < (nzc + 1)) ∧ (0 ≤ j ∧ j < (nxc + 1)) ∧ (0 ≤ 1 ∧ 1 < 2) := ⟨Idx.range, Idx.range, by decide⟩

theorem fteik2d_fteik2d_L644c47_ctx0 (i int_xsa int_xsa_v9 int_zsa int_zsa_v10 j nxc nzc sgntx sgntz xsi zsi : Int) (_ : 1 ≤ nzc) (_ : 1 ≤ nxc) (_ : 0 ≤ int_zsa) (_ : int_zsa ≤ nzc) (_ : 0 ≤ int_xsa) (_ : int_xsa ≤ nxc) (_ : -1 ≤ sgntz) (_ : sgntz ≤ 1) (_ : -1 ≤ sgntx) (_ : sgntx ≤ 1) (_ : sgntz = 1 → 1 ≤ i) (_ : sgntz = -1 → i ≤ nzc - 1) (_ : sgntx = 1 → 1 ≤ j) (_ : sgntx = -1 → j ≤ nxc - 1) (_ : zsi = (min int_zsa_v10 (nzc - 1))) (_ : xsi = (min int_xsa_v9 (nxc - 1))) (_ : 0 ≤ int_xsa_v9) (_ : int_xsa_v9 ≤ nxc) (_ : 0 ≤ int_zsa_v10) (_ : int_zsa_v10 ≤ nzc) (_ : 0 ≤ i) (_ : i < (nzc + 1)) (_ : 0 ≤ j) (_ : j < (nxc + 1)) (_ : sgntx ≠ 0) :
    (0 ≤ i ∧ i < (nzc + 1)) ∧ (0 ≤ j ∧ j < (nxc + 1)) := ⟨Idx.range, Idx.range⟩

theorem fteik2d_fteik2d_L647c28_ctx0 (i int_xsa int_xsa_v9 int_zsa int_zsa_v10 j nxc nzc sgntx sgntz xsi zsi : Int) (_ : 1 ≤ nzc) (_ : 1 ≤ nxc) (_ : 0 ≤ int_zsa) (_ : int_zsa ≤ nzc) (_ : 0 ≤ int_xsa) (_ : int_xsa ≤ nxc) (_ : -1 ≤ sgntz) (_ : sgntz ≤ 1) (_ : -1 ≤ sgntx) (_ : sgntx ≤ 1) (_ : sgntz = 1 → 1 ≤ i) (_ : sgntz = -1 → i ≤ nzc - 1) (_ : sgntx = 1 → 1 ≤ j) (_ : sgntx = -1 → j ≤ nxc - 1) (_ : zsi = (min int_zsa_v10 (nzc - 1))) (_ : xsi = (min int_xsa_v9 (nxc - 1))) (_ : 0 ≤ int_xsa_v9) (_ : int_xsa_v9 ≤ nxc) (_ : 0 ≤ int_zsa_v10) (_ : int_zsa_v10 ≤ nzc) (_ : 0 ≤ i) (_ : i < (nzc + 1)) (_ : 0 ≤ j) (_ : j < (nxc + 1)) :
    (0 ≤ i ∧ i < (nzc + 1)) ∧ (0 ≤ j ∧ j < (nxc + 1)) ∧ (0 ≤ 0 ∧ 0 < 2) := ⟨Idx.range, Idx.range, by decide⟩

theorem fteik2d_fteik2d_L647c45_ctx0 (i int_xsa int_xsa_v9 int_zsa int_zsa_v10 j nxc nzc sgntx sgntz xsi zsi : Int) (_ : 1 ≤ nzc) (_ : 1 ≤ nxc) (_ : 0 ≤ int_zsa) (_ : int_zsa ≤ nzc) (_ : 0 ≤ int_xsa) (_ : int_xsa ≤ nxc) (_ : -1 ≤ sgntz) (_ : sgntz ≤ 1) (_ : -1 ≤ sgntx) (_ : sgntx ≤ 1) (_ : sgntz = 1 → 1 ≤ i) (_ : sgntz = -1 → i ≤ nzc - 1) (_ : sgntx = 1 → 1 ≤ j) (_ : sgntx = -1 → j ≤ nxc - 1) (_ : zsi = (min int_zsa_v10 (nzc - 1))) (_ : xsi = (min int_xsa_v9 (nxc - 1))) (_ : 0 ≤ int_xsa_v9) (_ : int_xsa_v9 ≤ nxc) (_ : 0 ≤ int_zsa_v10) (_ : int_zsa_v10 ≤ nzc) (_ : 0 ≤ i) (_ : i < (nzc + 1)) (_ : 0 ≤ j) (_ : j < (nxc + 1)) :
    (0 ≤ i ∧ i < (nzc + 1)) ∧ (0 ≤ j ∧ j < (nxc + 1)) ∧ (0 ≤ 1 ∧ 1 < 2) := ⟨Idx.range, Idx.range, by decide⟩

theorem fteik2d_fteik2d_L649c20_ctx0 (i int_xsa int_xsa_v9 int_zsa int_zsa_v10 j nxc nzc sgntx sgntz xsi zsi : Int) (_ : 1 ≤ nzc) (_ : 1 ≤ nxc) (_ : 0 ≤ int_zsa) (_ : int_zsa ≤ nzc) (_ : 0 ≤ int_xsa) (_ : int_xsa ≤ nxc) (_ : -1 ≤ sgntz) (_ : sgntz ≤ 1) (_ : -1 ≤ sgntx) (_ : sgntx ≤ 1) (_ : sgntz = 1 → 1 ≤ i) (_ : sgntz = -1 → i ≤ nzc - 1) (_ : sgntx = 1 → 1 ≤ j) (_ : sgntx = -1 → j ≤ nxc - 1) (_ : zsi = (min int_zsa_v10 (nzc - 1))) (_ : xsi = (min int_xsa_v9 (nxc - 1))) (_ : 0 ≤ int_xsa_v9) (_ : int_xsa_v9 ≤ nxc) (_ : 0 ≤ int_zsa_v10) (_ : int_zsa_v10 ≤ nzc) (_ : 0 ≤ i) (_ : i < (nzc + 1)) (_ : 0 ≤ j) (_ : j < (nxc + 1)) :
    (0 ≤ i ∧ i < (nzc + 1)) ∧ (0 ≤ j ∧ j < (nxc + 1)) := ⟨Idx.range, Idx.range⟩

theorem fteik3d_fteik3d_L423c12_ctx0 (i int_xsa int_ysa int_zsa j k nxc nyc nzc sgntx sgnty sgntz xsi ysi zsi : Int) (_ : 1 ≤ nzc) (_ : 1 ≤ nxc) (_ : 1 ≤ nyc) (_ : 0 ≤ int_zsa) (_ : int_zsa ≤ nzc) (_ : 0 ≤ int_xsa) (_ : int_xsa ≤ nxc) (_ : 0 ≤ int_ysa) (_ : int_ysa ≤ nyc) (_ : -1 ≤ sgntz) (_ : sgntz ≤ 1) (_ : -1 ≤ sgntx) (_ : sgntx ≤ 1) (_ : -1 ≤ sgnty) (_ : sgnty ≤ 1) (_ : sgntz = 1 → 1 ≤ i) (_ : sgntz = -1 → i ≤ nzc - 1) (_ : sgntx = 1 → 1 ≤ j) (_ : sgntx = -1 → j ≤ nxc - 1) (_ : sgnty = 1 → 1 ≤ k) (_ : sgnty = -1 → k ≤ nyc - 1) (_ : zsi = (min int_zsa (nzc - 1))) (_ : xsi = (min int_xsa (nxc - 1))) (_ : ysi = (min int_ysa (nyc - 1))) :
    (0 ≤ zsi ∧ zsi < nzc) ∧ (0 ≤ xsi ∧ xsi < nxc) ∧ (0 ≤ ysi ∧ ysi < nyc) := ⟨Idx.srcCell, Idx.srcCell, Idx.srcCell⟩

theorem fteik3d_fteik3d_L451c8_it0_ctx0 (i int_xsa int_ysa int_zsa j k nxc nyc nzc sgntx sgnty sgntz xsi ysi zsi : Int) (_ : 1 ≤ nzc) (_ : 1 ≤ nxc) (_ : 1 ≤ nyc) (_ : 0 ≤ int_zsa) (_ : int_zsa ≤ nzc) (_ : 0 ≤ int_xsa) (_ : int_xsa ≤ nxc) (_ : 0 ≤ int_ysa) (_ : int_ysa ≤ nyc) (_ : -1 ≤ sgntz) (_ : sgntz ≤ 1) (_ : -1 ≤ sgntx) (_ : sgntx ≤ 1) (_ : -1 ≤ sgnty) (_ : sgnty ≤ 1) (_ : sgntz = 1 → 1 ≤ i) (_ : sgntz = -1 → i ≤ nzc - 1) (_ : sgntx = 1 → 1 ≤ j) (_ : sgntx = -1 → j ≤ nxc - 1) (_ : sgnty = 1 → 1 ≤ k) (_ : sgnty = -1 → k ≤ nyc - 1) (_ : zsi = (min int_zsa (nzc - 1))) (_ : xsi = (min int_xsa (nxc - 1))) (_ : ysi = (min int_ysa (nyc - 1))) :
    (0 ≤ zsi ∧ zsi < (nzc + 1)) ∧ (0 ≤ xsi ∧ xsi < (nxc + 1)) ∧ (0 ≤ ysi ∧ ysi < (nyc + 1)) := ⟨Idx.srcCell_node, Idx.srcCell_node, Idx.srcCell_node⟩

theorem fteik3d_fteik3d_L454c12_it0_ctx0 (i int_xsa int_ysa int_zsa j k nxc nyc nzc sgntx sgnty sgntz xsi ysi zsi : Int) (_ : 1 ≤ nzc) (_ : 1 ≤ nxc) (_ : 1 ≤ nyc) (_ : 0 ≤ int_zsa) (_ : int_zsa ≤ nzc) (_ : 0 ≤ int_xsa) (_ : int_xsa ≤ nxc) (_ : 0 ≤ int_ysa) (_ : int_ysa ≤ nyc) (_ : -1 ≤ sgntz) (_ : sgntz ≤ 1) (_ : -1 ≤ sgntx) (_ : sgntx ≤ 1) (_ : -1 ≤ sgnty) (_ : sgnty ≤ 1) (_ : sgntz = 1 → 1 ≤ i) (_ : sgntz = -1 → i ≤ nzc - 1) (_ : sgntx = 1 → 1 ≤ j) (_ : sgntx = -1 → j ≤ nxc - 1) (_ : sgnty = 1 → 1 ≤ k) (_ : sgnty = -1 → k ≤ nyc - 1) (_ : zsi = (min int_zsa (nzc - 1))) (_ : xsi = (min int_xsa (nxc - 1))) (_ : ysi = (min int_ysa (nyc - 1))) :
    (0 ≤ zsi ∧ zsi < (nzc + 1)) ∧ (0 ≤ xsi ∧ xsi < (nxc + 1)) ∧ (0 ≤ ysi ∧ ysi < (nyc + 1)) ∧ (0 ≤ 0 ∧ 0 < 3) := ⟨Idx.srcCell_node, Idx.srcCell_node, Idx.srcCell_node, by decide⟩

theorem fteik3d_fteik3d_L455c12_it0_ctx0 (i int_xsa int_ysa int_zsa j k nxc nyc nzc sgntx sgnty sgntz xsi ysi zsi : Int) (_ : 1 ≤ nzc) (_ : 1 ≤ nxc) (_ : 1 ≤ nyc) (_ : 0 ≤ int_zsa) (_ : int_zsa ≤ nzc) (_ : 0 ≤ int_xsa) (_ : int_xsa ≤ nxc) (_ : 0 ≤ int_ysa) (_ : int_ysa ≤ nyc) (_ : -1 ≤ sgntz) (_ : sgntz ≤ 1) (_ : -1 ≤ sgntx) (_ : sgntx ≤ 1) (_ : -1 ≤ sgnty) (_ : sgnty ≤ 1) (_ : sgntz = 1 → 1 ≤ i) (_ : sgntz = -1 → i ≤ nzc - 1) (_ : sgntx = 1 → 1 ≤ j) (_ : sgntx = -1 → j ≤ nxc - 1) (_ : sgnty = 1 → 1 ≤ k) (_ : sgnty = -1 → k ≤ nyc - 1) (_ : zsi = (min int_zsa (nzc - 1))) (_ : xsi = (min int_xsa (nxc - 1))) (_ : ysi = (min int_ysa (nyc - 1))) :
    (0 ≤ zsi ∧ zsi < (nzc + 1)) ∧ (0 ≤ xsi ∧ xsi < (nxc + 1)) ∧ (0 ≤ ysi ∧ ysi < (nyc + 1)) ∧ (0 ≤ 1 ∧ 1 < 3) := ⟨Idx.srcCell_node, Idx.srcCell_node, Idx.srcCell_node, by decide⟩

theorem fteik3d_fteik3d_L456c12_it0_ctx0 (i int_xsa int_ysa int_zsa j k nxc nyc nzc sgntx sgnty sgntz xsi ysi zsi : Int) (_ : 1 ≤ nzc) (_ : 1 ≤ nxc) (_ : 1 ≤ nyc) (_ : 0 ≤ int_zsa) (_ : int_zsa ≤ nzc) (_ : 0 ≤ int_xsa) (_ : int_xsa ≤ nxc) (_ : 0 ≤ int_ysa) (_ : int_ysa ≤ nyc) (_ : -1 ≤ sgntz) (_ : sgntz ≤ 1) (_ : -1 ≤ sgntx) (_ : sgntx ≤ 1) (_ : -1 ≤ sgnty) (_ : sgnty ≤ 1) (_ : sgntz = 1 → 1 ≤ i) (_ : sgntz = -1 → i ≤ nzc - 1) (_ : sgntx = 1 → 1 ≤ j) (_ : sgntx = -1 → j ≤ nxc - 1) (_ : sgnty = 1 → 1 ≤ k) (_ : sgnty = -1 → k ≤ nyc - 1) (_ : zsi = (min int_zsa (nzc - 1))) (_ : xsi = (min int_xsa (nxc - 1))) (_ : ysi = (min int_ysa (nyc - 1))) :
    (0 ≤ zsi ∧ zsi < (nzc + 1)) ∧ (0 ≤ xsi ∧ xsi < (nxc + 1)) ∧ (0 ≤ ysi ∧ ysi < (nyc + 1)) ∧ (0 ≤ 2 ∧ 2 < 3) := ⟨Idx.srcCell_node, Idx.srcCell_node, Idx.srcCell_node, by decide⟩

theorem fteik3d_fteik3d_L451c8_it1_ctx0 (i int_xsa int_ysa int_zsa j k nxc nyc nzc sgntx sgnty sgntz xsi ysi zsi : Int) (_ : 1 ≤ nzc) (_ : 1 ≤ nxc) (_ : 1 ≤ nyc) (_ : 0 ≤ int_zsa) (_ : int_zsa ≤ nzc) (_ : 0 ≤ int_xsa) (_ : int_xsa ≤ nxc) (_ : 0 ≤ int_ysa) (_ : int_ysa ≤ nyc) (_ : -1 ≤ sgntz) (_ : sgntz ≤ 1) (_ : -1 ≤ sgntx) (_ : sgntx ≤ 1) (_ : -1 ≤ sgnty) (_ : sgnty ≤ 1) (_ : sgntz = 1 → 1 ≤ i) (_ : sgntz = -1 → i ≤ nzc - 1) (_ : sgntx = 1 → 1 ≤ j) (_ : sgntx = -1 → j ≤ nxc - 1) (_ : sgnty = 1 → 1 ≤ k) (_ : sgnty = -1 → k ≤ nyc - 1) (_ : zsi = (min int_zsa (nzc - 1))) (_ : xsi = (min int_xsa (nxc - 1))) (_ : ysi = (min int_ysa (nyc - 1))) :
    (0 ≤ (zsi + 1) ∧ (zsi + 1) < (nzc + 1)) ∧ (0 ≤ xsi ∧ xsi < (nxc + 1)) ∧ (0 ≤ ysi ∧ ysi < (nyc + 1)) := ⟨Idx.srcCell_succ, Idx.srcCell_node, Idx.srcCell_node⟩

theorem fteik3d_fteik3d_L454c12_it1_ctx0 (i int_xsa int_ysa int_zsa j k nxc nyc nzc sgntx sgnty sgntz xsi ysi zsi : Int) (_ : 1 ≤ nzc) (_ : 1 ≤ nxc) (_ : 1 ≤ nyc) (_ : 0 ≤ int_zsa) (_ : int_zsa ≤ nzc) (_ : 0 ≤ int_xsa) (_ : int_xsa ≤ nxc) (_ : 0 ≤ int_ysa) (_ : int_ysa ≤ nyc) (_ : -1 ≤ sgntz) (_ : sgntz ≤ 1) (_ : -1 ≤ sgntx) (_ : sgntx ≤ 1) (_ : -1 ≤ sgnty) (_ : sgnty ≤ 1) (_ : sgntz = 1 → 1 ≤ i) (_ : sgntz = -1 → i ≤ nzc - 1) (_ : sgntx = 1 → 1 ≤ j) (_ : sgntx = -1 → j ≤ nxc - 1) (_ : sgnty = 1 → 1 ≤ k) (_ : sgnty = -1 → k ≤ nyc - 1) (_ : zsi = (min int_zsa (nzc - 1))) (_ : xsi = (min int_xsa (nxc - 1))) (_ : ysi = (min int_ysa (nyc - 1))) :
    (0 ≤ (zsi + 1) ∧ (zsi + 1) < (nzc + 1)) ∧ (0 ≤ xsi ∧ xsi < (nxc + 1)) ∧ (0 ≤ ysi ∧ ysi < (nyc + 1)) ∧ (0 ≤ 0 ∧ 0 < 3) := ⟨Idx.srcCell_succ, Idx.srcCell_node, Idx.srcCell_node, by decide⟩

theorem fteik3d_fteik3d_L455c12_it1_ctx0 (i int_xsa int_ysa int_zsa j k nxc nyc nzc sgntx sgnty sgntz xsi ysi zsi : Int) (_ : 1 ≤ nzc) (_ : 1 ≤ nxc) (_ : 1 ≤ nyc) (_ : 0 ≤ int_zsa) (_ : int_zsa ≤ nzc) (_ : 0 ≤ int_xsa) (_ : int_xsa ≤ nxc) (_ : 0 ≤ int_ysa) (_ : int_ysa ≤ nyc) (_ : -1 ≤ sgntz) (_ : sgntz ≤ 1) (_ : -1 ≤ sgntx) (_ : sgntx ≤ 1) (_ : -1 ≤ sgnty) (_ : sgnty ≤ 1) (_ : sgntz = 1 → 1 ≤ i) (_ : sgntz = -1 → i ≤ nzc - 1) (_ : sgntx = 1 → 1 ≤ j) (_ : sgntx = -1 → j ≤ nxc - 1) (_ : sgnty = 1 → 1 ≤ k) (_ : sgnty = -1 → k ≤ nyc - 1) (_ : zsi = (min int_zsa (nzc - 1))) (_ : xsi = (min int_xsa (nxc - 1))) (_ : ysi = (min int_ysa (nyc - 1))) :
    (0 ≤ (zsi + 1) ∧ (zsi + 1) < (nzc + 1)) ∧ (0 ≤ xsi ∧ xsi < (nxc + 1)) ∧ (0 ≤ ysi ∧ ysi < (nyc + 1)) ∧ (0 ≤ 1 ∧ 1 < 3) := ⟨Idx.srcCell_succ, Idx.srcCell_node, Idx.srcCell_node, by decide⟩

theorem fteik3d_fteik3d_L456c12_it1_ctx0 (i int_xsa int_ysa int_zsa j k nxc nyc nzc sgntx sgnty sgntz xsi ysi zsi : Int) (_ : 1 ≤ nzc) (_ : 1 ≤ nxc) (_ : 1 ≤ nyc) (_ : 0 ≤ int_zsa) (_ : int_zsa ≤ nzc) (_ : 0 ≤ int_xsa) (_ : int_xsa ≤ nxc) (_ : 0 ≤ int_ysa) (_ : int_ysa ≤ nyc) (_ : -1 ≤ sgntz) (_ : sgntz ≤ 1) (_ : -1 ≤ sgntx) (_ : sgntx ≤ 1) (_ : -1 ≤ sgnty) (_ : sgnty ≤ 1) (_ : sgntz = 1 → 1 ≤ i) (_ : sgntz = -1 → i ≤ nzc - 1) (_ : sgntx = 1 → 1 ≤ j) (_ : sgntx = -1 → j ≤ nxc - 1) (_ : sgnty = 1 → 1 ≤ k) (_ : sgnty = -1 → k ≤ nyc - 1) (_ : zsi = (min int_zsa (nzc - 1))) (_ : xsi = (min int_xsa (nxc - 1))) (_ : ysi = (min int_ysa (nyc - 1))) :
    (0 ≤ (zsi + 1) ∧ (zsi + 1) < (nzc + 1)) ∧ (0 ≤ xsi ∧ xsi < (nxc + 1)) ∧ (0 ≤ ysi ∧ ysi < (nyc + 1)) ∧ (0 ≤ 2 ∧ 2 < 3) := ⟨Idx.srcCell_succ, Idx.srcCell_node, Idx.srcCell_node, by decide⟩

theorem fteik3d_fteik3d_L451c8_it2_ctx0 (i int_xsa int_ysa int_zsa j k nxc nyc nzc sgntx sgnty sgntz xsi ysi zsi : Int) (_ : 1 ≤ nzc) (_ : 1 ≤ nxc) (_ : 1 ≤ nyc) (_ : 0 ≤ int_zsa) (_ : int_zsa ≤ nzc) (_ : 0 ≤ int_xsa) (_ : int_xsa ≤ nxc) (_ : 0 ≤ int_ysa) (_ : int_ysa ≤ nyc) (_ : -1 ≤ sgntz) (_ : sgntz ≤ 1) (_ : -1 ≤ sgntx) (_ : sgntx ≤ 1) (_ : -1 ≤ sgnty) (_ : sgnty ≤ 1) (_ : sgntz = 1 → 1 ≤ i) (_ : sgntz = -1 → i ≤ nzc - 1) (_ : sgntx = 1 → 1 ≤ j) (_ : sgntx = -1 → j ≤ nxc - 1) (_ : sgnty = 1 → 1 ≤ k) (_ : sgnty = -1 → k ≤ nyc - 1) (_ : zsi = (min int_zsa (nzc - 1))) (_ : xsi = (min int_xsa (nxc - 1))) (_ : ysi = (min int_ysa (nyc - 1))) :
    (0 ≤ zsi ∧ zsi < (nzc + 1)) ∧ (0 ≤ (xsi + 1) ∧ (xsi + 1) < (nxc + 1)) ∧ (0 ≤ ysi ∧ ysi < (nyc + 1)) := ⟨Idx.srcCell_node, Idx.srcCell_succ, Idx.srcCell_node⟩

theorem fteik3d_fteik3d_L454c12_it2_ctx0 (i int_xsa int_ysa int_zsa j k nxc nyc nzc sgntx sgnty sgntz xsi ysi zsi : Int) (_ : 1 ≤ nzc) (_ : 1 ≤ nxc) (_ : 1 ≤ nyc) (_ : 0 ≤ int_zsa) (_ : int_zsa ≤ nzc) (_ : 0 ≤ int_xsa) (_ : int_xsa ≤ nxc) (_ : 0 ≤ int_ysa) (_ : int_ysa ≤ nyc) (_ : -1 ≤ sgntz) (_ : sgntz ≤ 1) (_ : -1 ≤ sgntx) (_ : sgntx ≤ 1) (_ : -1 ≤ sgnty) (_ : sgnty ≤ 1) (_ : sgntz = 1 → 1 ≤ i) (_ : sgntz = -1 → i ≤ nzc - 1) (_ : sgntx = 1 → 1 ≤ j) (_ : sgntx = -1 → j ≤ nxc - 1) (_ : sgnty = 1 → 1 ≤ k) (_ : sgnty = -1 → k ≤ nyc - 1) (_ : zsi = (min int_zsa (nzc - 1))) (_ : xsi = (min int_xsa (nxc - 1))) (_ : ysi = (min int_ysa (nyc - 1))) :
    (0 ≤ zsi ∧ zsi < (nzc + 1)) ∧ (0 ≤ (xsi + 1) ∧ (xsi + 1) < (nxc + 1)) ∧ (0 ≤ ysi ∧ ysi < (nyc + 1)) ∧ (0 ≤ 0 ∧ 0 < 3) := ⟨Idx.srcCell_node, Idx.srcCell_succ, Idx.srcCell_node, by decide⟩

theorem fteik3d_fteik3d_L455c12_it2_ctx0 (i int_xsa int_ysa int_zsa j k nxc nyc nzc sgntx sgnty sgntz xsi ysi zsi : Int) (_ : 1 ≤ nzc) (_ : 1 ≤ nxc) (_ : 1 ≤ nyc) (_ : 0 ≤ int_zsa) (_ : int_zsa ≤ nzc) (_ : 0 ≤ int_xsa) (_ : int_xsa ≤ nxc) (_ : 0 ≤ int_ysa) (_ : int_ysa ≤ nyc) (_ : -1 ≤ sgntz) (_ : sgntz ≤ 1) (_ : -1 ≤ sgntx) (_ : sgntx ≤ 1) (_ : -1 ≤ sgnty) (_ : sgnty ≤ 1) (_ : sgntz = 1 → 1 ≤ i) (_ : sgntz = -1 → i ≤ nzc - 1) (_ : sgntx = 1 → 1 ≤ j) (_ : sgntx = -1 → j ≤ nxc - 1) (_ : sgnty = 1 → 1 ≤ k) (_ : sgnty = -1 → k ≤ nyc - 1) (_ : zsi = (min int_zsa (nzc - 1))) (_ : xsi = (min int_xsa (nxc - 1))) (_ : ysi = (min int_ysa (nyc - 1))) :
    (0 ≤ zsi ∧ zsi < (nzc + 1)) ∧ (0 ≤ (xsi + 1) ∧ (xsi + 1) < (nxc + 1)) ∧ (0 ≤ ysi ∧ ysi < (nyc + 1)) ∧ (0 ≤ 1 ∧ 1 < 3) := ⟨Idx.srcCell_node, Idx.srcCell_succ, Idx.srcCell_node, by decide⟩

theorem fteik3d_fteik3d_L456c12_it2_ctx0 (i int_xsa int_ysa int_zsa j k nxc nyc nzc sgntx sgnty sgntz xsi ysi zsi : Int) (_ : 1 ≤ nzc) (_ : 1 ≤ nxc) (_ : 1 ≤ nyc) (_ : 0 ≤ int_zsa) (_ : int_zsa ≤ nzc) (_ : 0 ≤ int_xsa) (_ : int_xsa ≤ nxc) (_ : 0 ≤ int_ysa) (_ : int_ysa ≤ nyc) (_ : -1 ≤ sgntz) (_ : sgntz ≤ 1) (_ : -1 ≤ sgntx) (_ : sgntx ≤ 1) (_ : -1 ≤ sgnty) (_ : sgnty ≤ 1) (_ : sgntz = 1 → 1 ≤ i) (_ : sgntz = -1 → i ≤ nzc - 1) (_ : sgntx = 1 → 1 ≤ j) (_ : sgntx = -1 → j ≤ nxc - 1) (_ : sgnty = 1 → 1 ≤ k) (_ : sgnty = -1 → k ≤ nyc - 1) (_ : zsi = (min int_zsa (nzc - 1))) (_ : xsi = (min int_xsa (nxc - 1))) (_ : ysi = (min int_ysa (nyc - 1))) :
    (0 ≤ zsi ∧ zsi < (nzc + 1)) ∧ (0 ≤ (xsi + 1) ∧ (xsi + 1) < (nxc + 1)) ∧ (0 ≤ ysi ∧ ysi < (nyc + 1)) ∧ (0 ≤ 2 ∧ 2 < 3) := ⟨Idx.srcCell_node, Idx.srcCell_succ, Idx.srcCell_node, by decide⟩

theorem fteik3d_fteik3d_L451c8_it3_ctx0 (i int_xsa int_ysa int_zsa j k nxc nyc nzc sgntx sgnty sgntz xsi ysi zsi : Int) (_ : 1 ≤ nzc) (_ : 1 ≤ nxc) (_ : 1 ≤ nyc) (_ : 0 ≤ int_zsa) (_ : int_zsa ≤ nzc) (_ : 0 ≤ int_xsa) (_ : int_xsa ≤ nxc) (_ : 0 ≤ int_ysa) (_ : int_ysa ≤ nyc) (_ : -1 ≤ sgntz) (_ : sgntz ≤ 1) (_ : -1 ≤ sgntx) (_ : sgntx ≤ 1) (_ : -1 ≤ sgnty) (_ : sgnty ≤ 1) (_ : sgntz = 1 → 1 ≤ i) (_ : sgntz = -1 → i ≤ nzc - 1) (_ : sgntx = 1 → 1 ≤ j) (_ : sgntx = -1 → j ≤ nxc - 1) (_ : sgnty = 1 → 1 ≤ k) (_ : sgnty = -1 → k ≤ nyc - 1) (_ : zsi = (min int_zsa (nzc - 1))) (_ : xsi = (min int_xsa (nxc - 1))) (_ : ysi = (min int_ysa (nyc - 1))) :
    (0 ≤ zsi ∧ zsi < (nzc + 1)) ∧ (0 ≤ xsi ∧ xsi < (nxc + 1)) ∧ (0 ≤ (ysi + 1) ∧ (ysi + 1) < (nyc + 1)) := ⟨Idx.srcCell_node, Idx.srcCell_node, Idx.srcCell_succ⟩

theorem fteik3d_fteik3d_L454c12_it3_ctx0 (i int_xsa int_ysa int_zsa j k nxc nyc nzc sgntx sgnty sgntz xsi ysi zsi : Int) (_ : 1 ≤ nzc) (_ : 1 ≤ nxc) (_ : 1 ≤ nyc) (_ : 0 ≤ int_zsa) (_ : int_zsa ≤ nzc) (_ : 0 ≤ int_xsa) (_ : int_xsa ≤ nxc) (_ : 0 ≤ int_ysa) (_ : int_ysa ≤ nyc) (_ : -1 ≤ sgntz) (_ : sgntz ≤ 1) (_ : -1 ≤ sgntx) (_ : sgntx ≤ 1) (_ : -1 ≤ sgnty) (_ : sgnty ≤ 1) (_ : sgntz = 1 → 1 ≤ i) (_ : sgntz = -1 → i ≤ nzc - 1) (_ : sgntx = 1 → 1 ≤ j) (_ : sgntx = -1 → j ≤ nxc - 1) (_ : sgnty = 1 → 1 ≤ k) (_ : sgnty = -1 → k ≤ nyc - 1) (_ : zsi = (min int_zsa (nzc - 1))) (_ : xsi = (min int_xsa (nxc - 1))) (_ : ysi = (min int_ysa (nyc - 1))) :
    (0 ≤ zsi ∧ zsi < (nzc + 1)) ∧ (0 ≤ xsi ∧ xsi < (nxc + 1)) ∧ (0 ≤ (ysi + 1) ∧ (ysi + 1) < (nyc + 1)) ∧ (0 ≤ 0 ∧ 0 < 3) := ⟨Idx.srcCell_node, Idx.srcCell_node, Idx.srcCell_succ, by decide⟩

theorem fteik3d_fteik3d_L455c12_it3_ctx0 (i int_xsa int_ysa int_zsa j k nxc nyc nzc sgntx sgnty sgntz xsi ysi zsi : Int) (_ : 1 ≤ nzc) (_ : 1 ≤ nxc) (_ : 1 ≤ nyc) (_ : 0 ≤ int_zsa) (_ : int_zsa ≤ nzc) (_ : 0 ≤ int_xsa) (_ : int_xsa ≤ nxc) (_ : 0 ≤ int_ysa) (_ : int_ysa ≤ nyc) (_ : -1 ≤ sgntz) (_ : sgntz ≤ 1) (_ : -1 ≤ sgntx) (_ : sgntx ≤ 1) (_ : -1 ≤ sgnty) (_ : sgnty ≤ 1) (_ : sgntz = 1 → 1 ≤ i) (_ : sgntz = -1 → i ≤ nzc - 1) (_ : sgntx = 1 → 1 ≤ j) (_ : sgntx = -1 → j ≤ nxc - 1) (_ : sgnty = 1 → 1 ≤ k) (_ : sgnty = -1 → k ≤ nyc - 1) (_ : zsi = (min int_zsa (nzc - 1))) (_ : xsi = (min int_xsa (nxc - 1))) (_ : ysi = (min int_ysa (nyc - 1))) :
    (0 ≤ zsi ∧ zsi < (nzc + 1)) ∧ (0 ≤ xsi ∧ xsi < (nxc + 1)) ∧ (0 ≤ (ysi + 1) ∧ (ysi + 1) < (nyc + 1)) ∧ (0 ≤ 1 ∧ 1 < 3) := ⟨Idx.srcCell_node, Idx.srcCell_node, Idx.srcCell_succ, by decide⟩

theorem fteik3d_fteik3d_L456c12_it3_ctx0 (i int_xsa int_ysa int_zsa j k nxc nyc nzc sgntx sgnty sgntz xsi ysi zsi : Int) (_ : 1 ≤ nzc) (_ : 1 ≤ nxc) (_ : 1 ≤ nyc) (_ : 0 ≤ int_zsa) (_ : int_zsa ≤ nzc) (_ : 0 ≤ int_xsa) (_ : int_xsa ≤ nxc) (_ : 0 ≤ int_ysa) (_ : int_ysa ≤ nyc) (_ : -1 ≤ sgntz) (_ : sgntz ≤ 1) (_ : -1 ≤ sgntx) (_ : sgntx ≤ 1) (_ : -1 ≤ sgnty) (_ : sgnty ≤ 1) (_ : sgntz = 1 → 1 ≤ i) (_ : sgntz = -1 → i ≤ nzc - 1) (_ : sgntx = 1 → 1 ≤ j) (_ : sgntx = -1 → j ≤ nxc - 1) (_ : sgnty = 1 → 1 ≤ k) (_ : sgnty = -1 → k ≤ nyc - 1) (_ : zsi = (min int_zsa (nzc - 1))) (_ : xsi = (min int_xsa (nxc - 1))) (_ : ysi = (min int_ysa (nyc - 1))) :
    (0 ≤ zsi ∧ zsi < (nzc + 1)) ∧ (0 ≤ xsi ∧ xsi < (nxc + 1)) ∧ (0 ≤ (ysi + 1) ∧ (ysi + 1) < (nyc + 1)) ∧ (0 ≤ 2 ∧ 2 < 3) := ⟨Idx.srcCell_node, Idx.srcCell_node, Idx.srcCell_succ, by decide⟩

theorem fteik3d_fteik3d_L451c8_it4_ctx0 (i int_xsa int_ysa int_zsa j k nxc nyc nzc sgntx sgnty sgntz xsi ysi zsi : Int) (_ : 1 ≤ nzc) (_ : 1 ≤ nxc) (_ : 1 ≤ nyc) (_ : 0 ≤ int_zsa) (_ : int_zsa ≤ nzc) (_ : 0 ≤ int_xsa) (_ : int_xsa ≤ nxc) (_ : 0 ≤ int_ysa) (_ : int_ysa ≤ nyc) (_ : -1 ≤ sgntz) (_ : sgntz ≤ 1) (_ : -1 ≤ sgntx) (_ : sgntx ≤ 1) (_ : -1 ≤ sgnty) (_ : sgnty ≤ 1) (_ : sgntz = 1 → 1 ≤ i) (_ : sgntz = -1 → i ≤ nzc - 1) (_ : sgntx = 1 → 1 ≤ j) (_ : sgntx = -1 → j ≤ nxc - 1) (_ : sgnty = 1 → 1 ≤ k) (_ : sgnty = -1 → k ≤ nyc - 1) (_ : zsi = (min int_zsa (nzc - 1))) (_ : xsi = (min int_xsa (nxc - 1))) (_ : ysi = (min int_ysa (nyc - 1))) :
    (0 ≤ (zsi + 1) ∧ (zsi + 1) < (nzc + 1)) ∧ (0 ≤ (xsi + 1) ∧ (xsi + 1) < (nxc + 1)) ∧ (0 ≤ ysi ∧ ysi < (nyc + 1)) := ⟨Idx.srcCell_succ, Idx.srcCell_succ, Idx.srcCell_node⟩

theorem fteik3d_fteik3d_L454c12_it4_ctx0 (i int_xsa int_ysa int_zsa j k nxc nyc nzc sgntx sgnty sgntz xsi ysi zsi : Int) (_ : 1 ≤ nzc) (_ : 1 ≤ nxc) (_ : 1 ≤ nyc) (_ : 0 ≤ int_zsa) (_ : int_zsa ≤ nzc) (_ : 0 ≤ int_xsa) (_ : int_xsa ≤ nxc) (_ : 0 ≤ int_ysa) (_ : int_ysa ≤ nyc) (_ : -1 ≤ sgntz) (_ : sgntz ≤ 1) (_ : -1 ≤ sgntx) (_ : sgntx ≤ 1) (_ : -1 ≤ sgnty) (_ : sgnty ≤ 1) (_ : sgntz = 1 → 1 ≤ i) (_ : sgntz = -1 → i ≤ nzc - 1) (_ : sgntx = 1 → 1 ≤ j) (_ : sgntx = -1 → j ≤ nxc - 1) (_ : sgnty = 1 → 1 ≤ k) (_ : sgnty = -1 → k ≤ nyc - 1) (_ : zsi = (min int_zsa (nzc - 1))) (_ : xsi = (min int_xsa (nxc - 1))) (_ : ysi = (min int_ysa (nyc - 1))) :
    (0 ≤ (zsi + 1) ∧ (zsi + 1) < (nzc + 1)) ∧ (0 ≤ (xsi + 1) ∧ (xsi + 1) < (nxc + 1)) ∧ (0 ≤ ysi ∧ ysi < (nyc + 1)) ∧ (0 ≤ 0 ∧ 0 < 3) := ⟨Idx.srcCell_succ, Idx.srcCell_succ, Idx.srcCell_node, by decide⟩

theorem fteik3d_fteik3d_L455c12_it4_ctx0 (i int_xsa int_ysa int_zsa j k nxc nyc nzc sgntx sgnty sgntz xsi ysi zsi : Int) (_ : 1 ≤ nzc) (_ : 1 ≤ nxc) (_ : 1 ≤ nyc) (_ : 0 ≤ int_zsa) (_ : int_zsa ≤ nzc) (_ : 0 ≤ int_xsa) (_ : int_xsa ≤ nxc) (_ : 0 ≤ int_ysa) (_ : int_ysa ≤ nyc) (_ : -1 ≤ sgntz) (_ : sgntz ≤ 1) (_ : -1 ≤ sgntx) (_ : sgntx ≤ 1) (_ : -1 ≤ sgnty) (_ : sgnty ≤ 1) (_ : sgntz = 1 → 1 ≤ i) (_ : sgntz = -1 → i ≤ nzc - 1) (_ : sgntx = 1 → 1 ≤ j) (_ : sgntx = -1 → j ≤ nxc - 1) (_ : sgnty = 1 → 1 ≤ k) (_ : sgnty = -1 → k ≤ nyc - 1) (_ : zsi = (min int_zsa (nzc - 1))) (_ : xsi = (min int_xsa (nxc - 1))) (_ : ysi = (min int_ysa (nyc - 1))) :
    (0 ≤ (zsi + 1) ∧ (zsi + 1) < (nzc + 1)) ∧ (0 ≤ (xsi + 1) ∧ (xsi + 1) < (nxc + 1)) ∧ (0 ≤ ysi ∧ ysi < (nyc + 1)) ∧ (0 ≤ 1 ∧ 1 < 3) := ⟨Idx.srcCell_succ, Idx.srcCell_succ, Idx.srcCell_node, by decide⟩

theorem fteik3d_fteik3d_L456c12_it4_ctx0 (i int_xsa int_ysa int_zsa j k nxc nyc nzc sgntx sgnty sgntz xsi ysi zsi : Int) (_ : 1 ≤ nzc) (_ : 1 ≤ nxc) (_ : 1 ≤ nyc) (_ : 0 ≤ int_zsa) (_ : int_zsa ≤ nzc) (_ : 0 ≤ int_xsa) (_ : int_xsa ≤ nxc) (_ : 0 ≤ int_ysa) (_ : int_ysa ≤ nyc) (_ : -1 ≤ sgntz) (_ : sgntz ≤ 1) (_ : -1 ≤ sgntx) (_ : sgntx ≤ 1) (_ : -1 ≤ sgnty) (_ : sgnty ≤ 1) (_ : sgntz = 1 → 1 ≤ i) (_ : sgntz = -1 → i ≤ nzc - 1) (_ : sgntx = 1 → 1 ≤ j) (_ : sgntx = -1 → j ≤ nxc - 1) (_ : sgnty = 1 → 1 ≤ k) (_ : sgnty = -1 → k ≤ nyc - 1) (_ : zsi = (min int_zsa (nzc - 1))) (_ : xsi = (min int_xsa (nxc - 1))) (_ : ysi = (min int_ysa (nyc - 1))) :
    (0 ≤ (zsi + 1) ∧ (zsi + 1) < (nzc + 1)) ∧ (0 ≤ (xsi + 1) ∧ (xsi + 1) < (nxc + 1)) ∧ (0 ≤ ysi ∧ ysi < (nyc + 1)) ∧ (0 ≤ 2 ∧ 2 < 3) := ⟨Idx.srcCell_succ, Idx.srcCell_succ, Idx.srcCell_node, by decide⟩

theorem fteik3d_fteik3d_L451c8_it5_ctx0 (i int_xsa int_ysa int_zsa j k nxc nyc nzc sgntx sgnty sgntz xsi ysi zsi : Int) (_ : 1 ≤ nzc) (_ : 1 ≤ nxc) (_ : 1 ≤ nyc) (_ : 0 ≤ int_zsa) (_ : int_zsa ≤ nzc) (_ : 0 ≤ int_xsa) (_ : int_xsa ≤ nxc) (_ : 0 ≤ int_ysa) (_ : int_ysa ≤ nyc) (_ : -1 ≤ sgntz) (_ : sgntz ≤ 1) (_ : -1 ≤ sgntx) (_ : sgntx ≤ 1) (_ : -1 ≤ sgnty) (_ : sgnty ≤ 1) (_ : sgntz = 1 → 1 ≤ i) (_ : sgntz = -1 → i ≤ nzc - 1) (_ : sgntx = 1 → 1 ≤ j) (_ : sgntx = -1 → j ≤ nxc - 1) (_ : sgnty = 1 → 1 ≤ k) (_ : sgnty = -1 → k ≤ nyc - 1) (_ : zsi = (min int_zsa (nzc - 1))) (_ : xsi = (min int_xsa (nxc - 1))) (_ : ysi = (min int_ysa (nyc - 1))) :
    (0 ≤ (zsi + 1) ∧ (zsi + 1) < (nzc + 1)) ∧ (0 ≤ xsi ∧ xsi < (nxc + 1)) ∧ (0 ≤ (ysi + 1) ∧ (ysi + 1) < (nyc + 1)) := ⟨Idx.srcCell_succ, Idx.srcCell_node, Idx.srcCell_succ⟩

theorem fteik3d_fteik3d_L454c12_it5_ctx0 (i int_xsa int_ysa int_zsa j k nxc nyc nzc sgntx sgnty sgntz xsi ysi zsi : Int) (_ : 1 ≤ nzc) (_ : 1 ≤ nxc) (_ : 1 ≤ nyc) (_ : 0 ≤ int_zsa) (_ : int_zsa ≤ nzc) (_ : 0 ≤ int_xsa) (_ : int_xsa ≤ nxc) (_ : 0 ≤ int_ysa) (_ : int_ysa ≤ nyc) (_ : -1 ≤ sgntz) (_ : sgntz ≤ 1) (_ : -1 ≤ sgntx) (_ : sgntx ≤ 1) (_ : -1 ≤ sgnty) (_ : sgnty ≤ 1) (_ : sgntz = 1 → 1 ≤ i) (_ : sgntz = -1 → i ≤ nzc - 1) (_ : sgntx = 1 → 1 ≤ j) (_ : sgntx = -1 → j ≤ nxc - 1) (_ : sgnty = 1 → 1 ≤ k) (_ : sgnty = -1 → k ≤ nyc - 1) (_ : zsi = (min int_zsa (nzc - 1))) (_ : xsi = (min int_xsa (nxc - 1))) (_ : ysi = (min int_ysa (nyc - 1))) :
    (0 ≤ (zsi + 1) ∧ (zsi + 1) < (nzc + 1)) ∧ (0 ≤ xsi ∧ xsi < (nxc + 1)) ∧ (0 ≤ (ysi + 1) ∧ (ysi + 1) < (nyc + 1)) ∧ (0 ≤ 0 ∧ 0 < 3) := ⟨Idx.srcCell_succ, Idx.srcCell_node, Idx.srcCell_succ, by decide⟩

theorem fteik3d_fteik3d_L455c12_it5_ctx0 (i int_xsa int_ysa int_zsa j k nxc nyc nzc sgntx sgnty sgntz xsi ysi zsi : Int) (_ : 1 ≤ nzc) (_ : 1 ≤ nxc) (_ : 1 ≤ nyc) (_ : 0 ≤ int_zsa) (_ : int_zsa ≤ nzc) (_ : 0 ≤ int_xsa) (_ : int_xsa ≤ nxc) (_ : 0 ≤ int_ysa) (_ : int_ysa ≤ nyc) (_ : -1 ≤ sgntz) (_ : sgntz ≤ 1) (_ : -1 ≤ sgntx) (_ : sgntx ≤ 1) (_ : -1 ≤ sgnty) (_ : sgnty ≤ 1) (_ : sgntz = 1 → 1 ≤ i) (_ : sgntz = -1 → i ≤ nzc - 1) (_ : sgntx = 1 → 1 ≤ j) (_ : sgntx = -1 → j ≤ nxc - 1) (_ : sgnty = 1 → 1 ≤ k) (_ : sgnty = -1 → k ≤ nyc - 1) (_ : zsi = (min int_zsa (nzc - 1))) (_ : xsi = (min int_xsa (nxc - 1))) (_ : ysi = (min int_ysa (nyc - 1))) :
    (0 ≤ (zsi + 1) ∧ (zsi + 1) < (nzc + 1)) ∧ (0 ≤ xsi ∧ xsi < (nxc + 1)) ∧ (0 ≤ (ysi + 1) ∧ (ysi + 1) < (nyc + 1)) ∧ (0 ≤ 1 ∧ 1 < 3) := ⟨Idx.srcCell_succ, Idx.srcCell_node, Idx.srcCell_succ, by decide⟩

theorem fteik3d_fteik3d_L456c12_it5_ctx0 (i int_xsa int_ysa int_zsa j k nxc nyc nzc sgntx sgnty sgntz xsi ysi zsi : Int) (_ : 1 ≤ nzc) (_ : 1 ≤ nxc) (_ : 1 ≤ nyc) (_ : 0 ≤ int_zsa) (_ : int_zsa ≤ nzc) (_ : 0 ≤ int_xsa) (_ : int_xsa ≤ nxc) (_ : 0 ≤ int_ysa) (_ : int_ysa ≤ nyc) (_ : -1 ≤ sgntz) (_ : sgntz ≤ 1) (_ : -1 ≤ sgntx) (_ : sgntx ≤ 1) (_ : -1 ≤ sgnty) (_ : sgnty ≤ 1) (_ : sgntz = 1 → 1 ≤ i) (_ : sgntz = -1 → i ≤ nzc - 1) (_ : sgntx = 1 → 1 ≤ j) (_ : sgntx = -1 → j ≤ nxc - 1) (_ : sgnty = 1 → 1 ≤ k) (_ : sgnty = -1 → k ≤ nyc - 1) (_ : zsi = (min int_zsa (nzc - 1))) (_ : xsi = (min int_xsa (nxc - 1))) (_ : ysi = (min int_ysa (nyc - 1))) :
    (0 ≤ (zsi + 1) ∧ (zsi + 1) < (nzc + 1)) ∧ (0 ≤ xsi ∧ xsi < (nxc + 1)) ∧ (0 ≤ (ysi + 1) ∧ (ysi + 1) < (nyc + 1)) ∧ (0 ≤ 2 ∧ 2 < 3) := ⟨Idx.srcCell_succ, Idx.srcCell_node, Idx.srcCell_succ, by decide⟩

theorem fteik3d_fteik3d_L451c8_it6_ctx0 (i int_xsa int_ysa int_zsa j k nxc nyc nzc sgntx sgnty sgntz xsi ysi zsi : Int) (_ : 1 ≤ nzc) (_ : 1 ≤ nxc) (_ : 1 ≤ nyc) (_ : 0 ≤ int_zsa) (_ : int_zsa ≤ nzc) (_ : 0 ≤ int_xsa) (_ : int_xsa ≤ nxc) (_ : 0 ≤ int_ysa) (_ : int_ysa ≤ nyc) (_ : -1 ≤ sgntz) (_ : sgntz ≤ 1) (_ : -1 ≤ sgntx) (_ : sgntx ≤ 1) (_ : -1 ≤ sgnty) (_ : sgnty ≤ 1) (_ : sgntz = 1 → 1 ≤ i) (_ : sgntz = -1 → i ≤ nzc - 1) (_ : sgntx = 1 → 1 ≤ j) (_ : sgntx = -1 → j ≤ nxc - 1) (_ : sgnty = 1 → 1 ≤ k) (_ : sgnty = -1 → k ≤ nyc - 1) (_ : zsi = (min int_zsa (nzc - 1))) (_ : xsi = (min int_xsa (nxc - 1))) (_ : ysi = (min int_ysa (nyc - 1))) :
    (0 ≤ zsi ∧ zsi < (nzc + 1)) ∧ (0 ≤ (xsi + 1) ∧ (xsi + 1) < (nxc + 1)) ∧ (0 ≤ (ysi + 1) ∧ (ysi + 1) < (nyc + 1)) := ⟨Idx.srcCell_node, Idx.srcCell_succ, Idx.srcCell_succ⟩

theorem fteik3d_fteik3d_L454c12_it6_ctx0 (i int_xsa int_ysa int_zsa j k nxc nyc nzc sgntx sgnty sgntz xsi ysi zsi : Int) (_ : 1 ≤ nzc) (_ : 1 ≤ nxc) (_ : 1 ≤ nyc) (_ : 0 ≤ int_zsa) (_ : int_zsa ≤ nzc) (_ : 0 ≤ int_xsa) (_ : int_xsa ≤ nxc) (_ : 0 ≤ int_ysa) (_ : int_ysa ≤ nyc) (_ : -1 ≤ sgntz) (_ : sgntz ≤ 1) (_ : -1 ≤ sgntx) (_ : sgntx ≤ 1) (_ : -1 ≤ sgnty) (_ : sgnty ≤ 1) (_ : sgntz = 1 → 1 ≤ i) (_ : sgntz = -1 → i ≤ nzc - 1) (_ : sgntx = 1 → 1 ≤ j) (_ : sgntx = -1 → j ≤ nxc - 1) (_ : sgnty = 1 → 1 ≤ k) (_ : sgnty = -1 → k ≤ nyc - 1) (_ : zsi = (min int_zsa (nzc - 1))) (_ : xsi = (min int_xsa (nxc - 1))) (_ : ysi = (min int_ysa (nyc - 1))) :
    (0 ≤ zsi ∧ zsi < (nzc + 1)) ∧ (0 ≤ (xsi + 1) ∧ (xsi + 1) < (nxc + 1)) ∧ (0 ≤ (ysi + 1) ∧ (ysi + 1) < (nyc + 1)) ∧ (0 ≤ 0 ∧ 0 < 3) := ⟨Idx.srcCell_node, Idx.srcCell_succ, Idx.srcCell_succ, by decide⟩

theorem fteik3d_fteik3d_L455c12_it6_ctx0 (i int_xsa int_ysa int_zsa j k nxc nyc nzc sgntx sgnty sgntz xsi ysi zsi : Int) (_ : 1 ≤ nzc) (_ : 1 ≤ nxc) (_ : 1 ≤ nyc) (_ : 0 ≤ int_zsa) (_ : int_zsa ≤ nzc) (_ : 0 ≤ int_xsa) (_ : int_xsa ≤ nxc) (_ : 0 ≤ int_ysa) (_ : int_ysa ≤ nyc) (_ : -1 ≤ sgntz) (_ : sgntz ≤ 1) (_ : -1 ≤ sgntx) (_ : sgntx ≤ 1) (_ : -1 ≤ sgnty) (_ : sgnty ≤ 1) (_ : sgntz = 1 → 1 ≤ i) (_ : sgntz = -1 → i ≤ nzc - 1) (_ : sgntx = 1 → 1 ≤ j) (_ : sgntx = -1 → j ≤ nxc - 1) (_ : sgnty = 1 → 1 ≤ k) (_ : sgnty = -1 → k ≤ nyc - 1) (_ : zsi = (min int_zsa (nzc - 1))) (_ : xsi = (min int_xsa (nxc - 1))) (_ : ysi = (min int_ysa (nyc - 1))) :
    (0 ≤ zsi ∧ zsi < (nzc + 1)) ∧ (0 ≤ (xsi + 1) ∧ (xsi + 1) < (nxc + 1)) ∧ (0 ≤ (ysi + 1) ∧ (ysi + 1) < (nyc + 1)) ∧ (0 ≤ 1 ∧ 1 < 3) := ⟨Idx.srcCell_node, Idx.srcCell_succ, Idx.srcCell_succ, by decide⟩

theorem fteik3d_fteik3d_L456c12_it6_ctx0 (i int_xsa int_ysa int_zsa j k nxc nyc nzc sgntx sgnty sgntz xsi ysi zsi : Int) (_ : 1 ≤ nzc) (_ : 1 ≤ nxc) (_ : 1 ≤ nyc) (_ : 0 ≤ int_zsa) (_ : int_zsa ≤ nzc) (_ : 0 ≤ int_xsa) (_ : int_xsa ≤ nxc) (_ : 0 ≤ int_ysa) (_ : int_ysa ≤ nyc) (_ : -1 ≤ sgntz) (_ : sgntz ≤ 1) (_ : -1 ≤ sgntx) (_ : sgntx ≤ 1) (_ : -1 ≤ sgnty) (_ : sgnty ≤ 1) (_ : sgntz = 1 → 1 ≤ i) (_ : sgntz = -1 → i ≤ nzc - 1) (_ : sgntx = 1 → 1 ≤ j) (_ : sgntx = -1 → j ≤ nxc - 1) (_ : sgnty = 1 → 1 ≤ k) (_ : sgnty = -1 → k ≤ nyc - 1) (_ : zsi = (min int_zsa (nzc - 1))) (_ : xsi = (min int_xsa (nxc - 1))) (_ : ysi = (min int_ysa (nyc - 1))) :
    (0 ≤ zsi ∧ zsi < (nzc + 1)) ∧ (0 ≤ (xsi + 1) ∧ (xsi + 1) < (nxc + 1)) ∧ (0 ≤ (ysi + 1) ∧ (ysi + 1) < (nyc + 1)) ∧ (0 ≤ 2 ∧ 2 < 3) := ⟨Idx.srcCell_node, Idx.srcCell_succ, Idx.srcCell_succ, by decide⟩

theorem fteik3d_fteik3d_L451c8_it7_ctx0 (i int_xsa int_ysa int_zsa j k nxc nyc nzc sgntx sgnty sgntz xsi ysi zsi : Int) (_ : 1 ≤ nzc) (_ : 1 ≤ nxc) (_ : 1 ≤ nyc) (_ : 0 ≤ int_zsa) (_ : int_zsa ≤ nzc) (_ : 0 ≤ int_xsa) (_ : int_xsa ≤ nxc) (_ : 0 ≤ int_ysa) (_ : int_ysa ≤ nyc) (_ : -1 ≤ sgntz) (_ : sgntz ≤ 1) (_ : -1 ≤ sgntx) (_ : sgntx ≤ 1) (_ : -1 ≤ sgnty) (_ : sgnty ≤ 1) (_ : sgntz = 1 → 1 ≤ i) (_ : sgntz = -1 → i ≤ nzc - 1) (_ : sgntx = 1 → 1 ≤ j) (_ : sgntx = -1 → j ≤ nxc - 1) (_ : sgnty = 1 → 1 ≤ k) (_ : sgnty = -1 → k ≤ nyc - 1) (_ : zsi = (min int_zsa (nzc - 1))) (_ : xsi = (min int_xsa (nxc - 1))) (_ : ysi = (min int_ysa (nyc - 1))) :
    (0 ≤ (zsi + 1) ∧ (zsi + 1) < (nzc + 1)) ∧ (0 ≤ (xsi + 1) ∧ (xsi + 1) < (nxc + 1)) ∧ (0 ≤ (ysi + 1) ∧ (ysi + 1) < (nyc + 1)) := ⟨Idx.srcCell_succ, Idx.srcCell_succ, Idx.srcCell_succ⟩

theorem fteik3d_fteik3d_L454c12_it7_ctx0 (i int_xsa int_ysa int_zsa j k nxc nyc nzc sgntx sgnty sgntz xsi ysi zsi : Int) (_ : 1 ≤ nzc) (_ : 1 ≤ nxc) (_ : 1 ≤ nyc) (_ : 0 ≤ int_zsa) (_ : int_zsa ≤ nzc) (_ : 0 ≤ int_xsa) (_ : int_xsa ≤ nxc) (_ : 0 ≤ int_ysa) (_ : int_ysa ≤ nyc) (_ : -1 ≤ sgntz) (_ : sgntz ≤ 1) (_ : -1 ≤ sgntx) (_ : sgntx ≤ 1) (_ : -1 ≤ sgnty) (_ : sgnty ≤ 1) (_ : sgntz = 1 → 1 ≤ i) (_ : sgntz = -1 → i ≤ nzc - 1) (_ : sgntx = 1 → 1 ≤ j) (_ : sgntx = -1 → j ≤ nxc - 1) (_ : sgnty = 1 → 1 ≤ k) (_ : sgnty = -1 → k ≤ nyc - 1) (_ : zsi = (min int_zsa (nzc - 1))) (_ : xsi = (min int_xsa (nxc - 1))) (_ : ysi = (min int_ysa (nyc - 1))) :
    (0 ≤ (zsi + 1) ∧ (zsi + 1) < (nzc + 1)) ∧ (0 ≤ (xsi + 1) ∧ (xsi + 1) < (nxc + 1)) ∧ (0 ≤ (ysi + 1) ∧ (ysi + 1) < (nyc + 1)) ∧ (0 ≤ 0 ∧ 0 < 3) := ⟨Idx.srcCell_succ, Idx.srcCell_succ, Idx.srcCell_succ, by decide⟩

theorem fteik3d_fteik3d_L455c12_it7_ctx0 (i int_xsa int_ysa int_zsa j k nxc nyc nzc sgntx sgnty sgntz xsi ysi zsi : Int) (_ : 1 ≤ nzc) (_ : 1 ≤ nxc) (_ : 1 ≤ nyc) (_ : 0 ≤ int_zsa) (_ : int_zsa ≤ nzc) (_ : 0 ≤ int_xsa) (_ : int_xsa ≤ nxc) (_ : 0 ≤ int_ysa) (_ : int_ysa ≤ nyc) (_ : -1 ≤ sgntz) (_ : sgntz ≤ 1) (_ : -1 ≤ sgntx) (_ : sgntx ≤ 1) (_ : -1 ≤ sgnty) (_ : sgnty ≤ 1) (_ : sgntz = 1 → 1 ≤ i) (_ : sgntz = -1 → i ≤ nzc - 1) (_ : sgntx = 1 → 1 ≤ j) (_ : sgntx = -1 → j ≤ nxc - 1) (_ : sgnty = 1 → 1 ≤ k) (_ : sgnty = -1 → k ≤ nyc - 1) (_ : zsi = (min int_zsa (nzc - 1))) (_ : xsi = (min int_xsa (nxc - 1))) (_ : ysi = (min int_ysa (nyc - 1))) :
    (0 ≤ (zsi + 1) ∧ (zsi + 1) < (nzc + 1)) ∧ (0 ≤ (xsi + 1) ∧ (xsi + 1) < (nxc + 1)) ∧ (0 ≤ (ysi + 1) ∧ (ysi + 1) < (nyc + 1)) ∧ (0 ≤ 1 ∧ 1 < 3) := ⟨Idx.srcCell_succ, Idx.srcCell_succ, Idx.srcCell_succ, by decide⟩

theorem fteik3d_fteik3d_L456c12_it7_ctx0 (i int_xsa int_ysa int_zsa j k nxc nyc nzc sgntx sgnty sgntz xsi ysi zsi : Int) (_ : 1 ≤ nzc) (_ : 1 ≤ nxc) (_ : 1 ≤ nyc) (_ : 0 ≤ int_zsa) (_ : int_zsa ≤ nzc) (_ : 0 ≤ int_xsa) (_ : int_xsa ≤ nxc) (_ : 0 ≤ int_ysa) (_ : int_ysa ≤ nyc) (_ : -1 ≤ sgntz) (_ : sgntz ≤ 1) (_ : -1 ≤ sgntx) (_ : sgntx ≤ 1) (_ : -1 ≤ sgnty) (_ : sgnty ≤ 1) (_ : sgntz = 1 → 1 ≤ i) (_ : sgntz = -1 → i ≤ nzc - 1) (_ : sgntx = 1 → 1 ≤ j) (_ : sgntx = -1 → j ≤ nxc - 1) (_ : sgnty = 1 → 1 ≤ k) (_ : sgnty = -1 → k ≤ nyc - 1) (_ : zsi = (min int_zsa (nzc - 1))) (_ : xsi = (min int_xsa (nxc - 1))) (_ : ysi = (min int_ysa (nyc - 1))) :
    (0 ≤ (zsi + 1) ∧ (zsi + 1) < (nzc + 1)) ∧ (0 ≤ (xsi + 1) ∧ (xsi + 1) < (nxc + 1)) ∧ (0 ≤ (ysi + 1) ∧ (ysi + 1) < (nyc + 1)) ∧ (0 ≤ 2 ∧ 2 < 3) := ⟨Idx.srcCell_succ, Idx.srcCell_succ, Idx.srcCell_succ, by decide⟩

theorem fteik3d_fteik3d_L468c28_ctx0 (i int_xsa int_ysa int_zsa j k nxc nyc nzc sgntx sgnty sgntz xsi ysi zsi : Int) (_ : 1 ≤ nzc) (_ : 1 ≤ nxc) (_ : 1 ≤ nyc) (_ : 0 ≤ int_zsa) (_ : int_zsa ≤ nzc) (_ : 0 ≤ int_xsa) (_ : int_xsa ≤ nxc) (_ : 0 ≤ int_ysa) (_ : int_ysa ≤ nyc) (_ : -1 ≤ sgntz) (_ : sgntz ≤ 1) (_ : -1 ≤ sgntx) (_ : sgntx ≤ 1) (_ : -1 ≤ sgnty) (_ : sgnty ≤ 1) (_ : sgntz = 1 → 1 ≤ i) (_ : sgntz = -1 → i ≤ nzc - 1) (_ : sgntx = 1 → 1 ≤ j) (_ : sgntx = -1 → j ≤ nxc - 1) (_ : sgnty = 1 → 1 ≤ k) (_ : sgnty = -1 → k ≤ nyc - 1) (_ : zsi = (min int_zsa (nzc - 1))) (_ : xsi = (min int_xsa (nxc - 1))) (_ : ysi = (min int_ysa (nyc - 1))) (_ : 0 ≤ i) (_ : i < (nzc + 1)) (_ : 0 ≤ j) (_ : j < (nxc + 1)) (_ : 0 ≤ k) (_ : k < (nyc + 1)) :
    (0 ≤ i ∧ i < (nzc + 1)) ∧ (0 ≤ j ∧ j < (nxc + 1)) ∧ (0 ≤ k ∧ k < (nyc + 1)) ∧ (0 ≤ 0 ∧ 0 < 3) := ⟨Idx.range, Idx.range, Idx.range, by decide⟩

theorem fteik3d_fteik3d_L470c29_ctx0 (i int_xsa int_ysa int_zsa j k nxc nyc nzc sgntx sgnty sgntz xsi ysi zsi : Int) (_ : 1 ≤ nzc) (_ : 1 ≤ nxc) (_ : 1 ≤ nyc) (_ : 0 ≤ int_zsa) (_ : int_zsa ≤ nzc) (_ : 0 ≤ int_xsa) (_ : int_xsa ≤ nxc) (_ : 0 ≤ int_ysa) (_ : int_ysa ≤ nyc) (_ : -1 ≤ sgntz) (_ : sgntz ≤ 1) (_ : -1 ≤ sgntx) (_ : sgntx ≤ 1) (_ : -1 ≤ sgnty) (_ : sgnty ≤ 1) (_ : sgntz = 1 → 1 ≤ i) (_ : sgntz = -1 → i ≤ nzc - 1) (_ : sgntx = 1 → 1 ≤ j) (_ : sgntx = -1 → j ≤ nxc - 1) (_ : sgnty = 1 → 1 ≤ k) (_ : sgnty = -1 → k ≤ nyc - 1) (_ : zsi = (min int_zsa (nzc - 1))) (_ : xsi = (min int_xsa (nxc - 1))) (_ : ysi = (min int_ysa (nyc - 1))) (_ : 0 ≤ i) (_ : i < (nzc + 1)) (_ : 0 ≤ j) (_ : j < (nxc + 1)) (_ : 0 ≤ k) (_ : k < (nyc + 1)) (_ : sgntz ≠ 0) :
    (0 ≤ (i - sgntz) ∧ (i - sgntz) < (nzc + 1)) ∧ (0 ≤ j ∧ j < (nxc + 1)) ∧ (0 ≤ k ∧ k < (nyc + 1)) := ⟨by lia, Idx.range, Idx.range⟩

theorem fteik3d_fteik3d_L471c24_ctx0 (i int_xsa int_ysa int_zsa j k nxc nyc nzc sgntx sgnty sgntz xsi ysi zsi : Int) (_ : 1 ≤ nzc) (_ : 1 ≤ nxc) (_ : 1 ≤ nyc) (_ : 0 ≤ int_zsa) (_ : int_zsa ≤ nzc) (_ : 0 ≤ int_xsa) (_ : int_xsa ≤ nxc) (_ : 0 ≤ int_ysa) (_ : int_ysa ≤ nyc) (_ : -1 ≤ sgntz) (_ : sgntz ≤ 1) (_ : -1 ≤ sgntx) (_ : sgntx ≤ 1) (_ : -1 ≤ sgnty) (_ : sgnty ≤ 1) (_ : sgntz = 1 → 1 ≤ i) (_ : sgntz = -1 → i ≤ nzc - 1) (_ : sgntx = 1 → 1 ≤ j) (_ : sgntx = -1 → j ≤ nxc - 1) (_ : sgnty = 1 → 1 ≤ k) (_ : sgnty = -1 → k ≤ nyc - 1) (_ : zsi = (min int_zsa (nzc - 1))) (_ : xsi = (min int_xsa (nxc - 1))) (_ : ysi = (min int_ysa (nyc - 1))) (_ : 0 ≤ i) (_ : i < (nzc + 1)) (_ : 0 ≤ j) (_ : j < (nxc + 1)) (_ : 0 ≤ k) (_ : k < (nyc + 1)) (_ : sgntz ≠ 0) :
    (0 ≤ i ∧ i < (nzc + 1)) ∧ (0 ≤ j ∧ j < (nxc + 1)) ∧ (0 ≤ k ∧ k < (nyc + 1)) ∧ (0 ≤ 0 ∧ 0 < 3) := ⟨Idx.range, Idx.range, Idx.range, by decide⟩

theorem fteik3d_fteik3d_L471c54_ctx0 (i int_xsa int_ysa int_zsa j k nxc nyc nzc sgntx sgnty sgntz xsi ysi zsi : Int) (_ : 1 ≤ nzc) (_ : 1 ≤ nxc) (_ : 1 ≤ nyc) (_ : 0 ≤ int_zsa) (_ : int_zsa ≤ nzc) (_ : 0 ≤ int_xsa) (_ : int_xsa ≤ nxc) (_ : 0 ≤ int_ysa) (_ : int_ysa ≤ nyc) (_ : -1 ≤ sgntz) (_ : sgntz ≤ 1) (_ : -1 ≤ sgntx) (_ : sgntx ≤ 1) (_ : -1 ≤ sgnty) (_ : sgnty ≤ 1) (_ : sgntz = 1 → 1 ≤ i) (_ : sgntz = -1 → i ≤ nzc - 1) (_ : sgntx = 1 → 1 ≤ j) (_ : sgntx = -1 → j ≤ nxc - 1) (_ : sgnty = 1 → 1 ≤ k) (_ : sgnty = -1 → k ≤ nyc - 1) (_ : zsi = (min int_zsa (nzc - 1))) (_ : xsi = (min int_xsa (nxc - 1))) (_ : ysi = (min int_ysa (nyc - 1))) (_ : 0 ≤ i) (_ : i < (nzc + 1)) (_ : 0 ≤ j) (_ : j < (nxc + 1)) (_ : 0 ≤ k) (_ : k < (nyc + 1)) (_ : sgntz ≠ 0) :
    (0 ≤ i ∧ i < (nzc + 1)) ∧ (0 ≤ j ∧ j < (nxc + 1)) ∧ (0 ≤ k ∧ k < (nyc + 1)) := ⟨Idx.range, Idx.range, Idx.range⟩

theorem fteik3d_fteik3d_L473c28_ctx0 (i int_xsa int_ysa int_zsa j k nxc nyc nzc sgntx sgnty sgntz xsi ysi zsi : Int) (_ : 1 ≤ nzc) (_ : 1 ≤ nxc) (_ : 1 ≤ nyc) (_ : 0 ≤ int_zsa) (_ : int_zsa ≤ nzc) (_ : 0 ≤ int_xsa) (_ : int_xsa ≤ nxc) (_ : 0 ≤ int_ysa) (_ : int_ysa ≤ nyc) (_ : -1 ≤ sgntz) (_ : sgntz ≤ 1) (_ : -1 ≤ sgntx) (_ : sgntx ≤ 1) (_ : -1 ≤ sgnty) (_ : sgnty ≤ 1) (_ : sgntz = 1 → 1 ≤ i) (_ : sgntz = -1 → i ≤ nzc - 1) (_ : sgntx = 1 → 1 ≤ j) (_ : sgntx = -1 → j ≤ nxc - 1) (_ : sgnty = 1 → 1 ≤ k) (_ : sgnty = -1 → k ≤ nyc - 1) (_ : zsi = (min int_zsa (nzc - 1))) (_ : xsi = (min int_xsa (nxc - 1))) (_ : ysi = (min int_ysa (nyc - 1))) (_ : 0 ≤ i) (_ : i < (nzc + 1)) (_ : 0 ≤ j) (_ : j < (nxc + 1)) (_ : 0 ≤ k) (_ : k < (nyc + 1)) :
    (0 ≤ i ∧ i < (nzc + 1)) ∧ (0 ≤ j ∧ j < (nxc + 1)) ∧ (0 ≤ k ∧ k < (nyc + 1)) ∧ (0 ≤ 1 ∧ 1 < 3) := ⟨Idx.range, Idx.range, Idx.range, by decide⟩

theorem fteik3d_fteik3d_L475c29_ctx0 (i int_xsa int_ysa int_zsa j k nxc nyc nzc sgntx sgnty sgntz xsi ysi zsi : Int) (_ : 1 ≤ nzc) (_ : 1 ≤ nxc) (_ : 1 ≤ nyc) (_ : 0 ≤ int_zsa) (_ : int_zsa ≤ nzc) (_ : 0 ≤ int_xsa) (_ : int_xsa ≤ nxc) (_ : 0 ≤ int_ysa) (_ : int_ysa ≤ nyc) (_ : -1 ≤ sgntz) (_ : sgntz ≤ 1) (_ : -1 ≤ sgntx) (_ : sgntx ≤ 1) (_ : -1 ≤ sgnty) (_ : sgnty ≤ 1) (_ : sgntz = 1 → 1 ≤ i) (_ : sgntz = -1 → i ≤ nzc - 1) (_ : sgntx = 1 → 1 ≤ j) (_ : sgntx = -1 → j ≤ nxc - 1) (_ : sgnty = 1 → 1 ≤ k) (_ : sgnty = -1 → k ≤ nyc - 1) (_ : zsi = (min int_zsa (nzc - 1))) (_ : xsi = (min int_xsa (nxc - 1))) (_ : ysi = (min int_ysa (nyc - 1))) (_ : 0 ≤ i) (_ : i < (nzc + 1)) (_ : 0 ≤ j) (_ : j < (nxc + 1)) (_ : 0 ≤ k) (_ : k < (nyc + 1)) (_ : sgntx ≠ 0) :
    (0 ≤ i ∧ i < (nzc + 1)) ∧ (0 ≤ (j - sgntx) ∧ (j - sgntx) < (nxc + 1)) ∧ (0 ≤ k ∧ k < (nyc + 1)) := ⟨Idx.range, by lia, Idx.range⟩

theorem fteik3d_fteik3d_L476c24_ctx0 (i int_xsa int_ysa int_zsa j k nxc nyc nzc sgntx sgnty sgntz xsi ysi zsi : Int) (_ : 1 ≤ nzc) (_ : 1 ≤ nxc) (_ : 1 ≤ nyc) (_ : 0 ≤ int_zsa) (_ : int_zsa ≤ nzc) (_ : 0 ≤ int_xsa) (_ : int_xsa ≤ nxc) (_ : 0 ≤ int_ysa) (_ : int_ysa ≤ nyc) (_ : -1 ≤ sgntz) (_ : sgntz ≤ 1) (_ : -1 ≤ sgntx) (_ : sgntx ≤ 1) (_ : -1 ≤ sgnty) (_ : sgnty ≤ 1) (_ : sgntz = 1 → 1 ≤ i) (_ : sgntz = -1 → i ≤ nzc - 1) (_ : sgntx = 1 → 1 ≤ j) (_ : sgntx = -1 → j ≤ nxc - 1) (_ : sgnty = 1 → 1 ≤ k) (_ : sgnty = -1 → k ≤ nyc - 1) (_ : zsi = (min int_zsa (nzc - 1))) (_ : xsi = (min int_xsa (nxc - 1))) (_ : ysi = (min int_ysa (nyc - 1))) (_ : 0 ≤ i) (_ : i < (nzc + 1)) (_ : 0 ≤ j) (_ : j < (nxc + 1)) (_ : 0 ≤ k) (_ : k < (nyc + 1)) (_ : sgntx ≠ 0) :
    (0 ≤ i ∧ i < (nzc + 1)) ∧ (0 ≤ j ∧ j < (nxc + 1)) ∧ (0 ≤ k ∧ k < (nyc + 1)) ∧ (0 ≤ 1 ∧ 1 < 3) := ⟨Idx.range, Idx.range, Idx.range, by decide⟩

theorem fteik3d_fteik3d_L476c54_ctx0 (i int_xsa int_ysa int_zsa j k nxc nyc nzc sgntx sgnty sgntz xsi ysi zsi : Int) (_ : 1 ≤ nzc) (_ : 1 ≤ nxc) (_ : 1 ≤ nyc) (_ : 0 ≤ int_zsa) (_ : int_zsa ≤ nzc) (_ : 0 ≤ int_xsa) (_ : int_xsa ≤ nxc) (_ : 0 ≤ int_ysa) (_ : int_ysa ≤ nyc) (_ : -1 ≤ sgntz) (_ : sgntz ≤ 1) (_ : -1 ≤ sgntx) (_ : sgntx ≤ 1) (_ : -1 ≤ sgnty) (_ : sgnty ≤ 1) (_ : sgntz = 1 → 1 ≤ i) (_ : sgntz = -1 → i ≤ nzc - 1) (_ : sgntx = 1 → 1 ≤ j) (_ : sgntx = -1 → j ≤ nxc - 1) (_ : sgnty = 1 → 1 ≤ k) (_ : sgnty = -1 → k ≤ nyc - 1) (_ : zsi = (min int_zsa (nzc - 1))) (_ : xsi = (min int_xsa (nxc - 1))) (_ : ysi = (min int_ysa (nyc - 1))) (_ : 0 ≤ i) (_ : i < (nzc + 1)) (_ : 0 ≤ j) (_ : j < (nxc + 1)) (_ : 0 ≤ k) (_ : k < (nyc + 1)) (_ : sgntx ≠ 0) :
    (0 ≤ i ∧ i < (nzc + 1)) ∧ (0 ≤ j ∧ j < (nxc + 1)) ∧ (0 ≤ k ∧ k < (nyc + 1)) := ⟨Idx.range, Idx.range, Idx.range⟩

theorem fteik3d_fteik3d_L478c28_ctx0 (i int_xsa int_ysa int_zsa j k nxc nyc nzc sgntx sgnty sgntz xsi ysi zsi : Int) (_ : 1 ≤ nzc) (_ : 1 ≤ nxc) (_ : 1 ≤ nyc) (_ : 0 ≤ int_zsa) (_ : int_zsa ≤ nzc) (_ : 0 ≤ int_xsa) (_ : int_xsa ≤ nxc) (_ : 0 ≤ int_ysa) (_ : int_ysa ≤ nyc) (_ : -1 ≤ sgntz) (_ : sgntz ≤ 1) (_ : -1 ≤ sgntx) (_ : sgntx ≤ 1) (_ : -1 ≤ sgnty) (_ : sgnty ≤ 1) (_ : sgntz = 1 → 1 ≤ i) (_ : sgntz = -1 → i ≤ nzc - 1) (_ : sgntx = 1 → 1 ≤ j) (_ : sgntx = -1 → j ≤ nxc - 1) (_ : sgnty = 1 → 1 ≤ k) (_ : sgnty = -1 → k ≤ nyc - 1) (_ : zsi = (min int_zsa (nzc - 1))) (_ : xsi = (min int_xsa (nxc - 1))) (_ : ysi = (min int_ysa (nyc - 1))) (_ : 0 ≤ i) (_ : i < (nzc + 1)) (_ : 0 ≤ j) (_ : j < (nxc + 1)) (_ : 0 ≤ k) (_ : k < (nyc + 1)) :
    (0 ≤ i ∧ i < (nzc + 1)) ∧ (0 ≤ j ∧ j < (nxc + 1)) ∧ (0 ≤ k ∧ k < (nyc + 1)) ∧ (0 ≤ 2 ∧ 2 < 3) := ⟨Idx.range, Idx.range, Idx.range, by decide⟩

theorem fteik3d_fteik3d_L480c29_ctx0 (i int_xsa int_ysa int_zsa j k nxc nyc nzc sgntx sgnty sgntz xsi ysi zsi : Int) (_ : 1 ≤ nzc) (_ : 1 ≤ nxc) (_ : 1 ≤ nyc) (_ : 0 ≤ int_zsa) (_ : int_zsa ≤ nzc) (_ : 0 ≤ int_xsa) (_ : int_xsa ≤ nxc) (_ : 0 ≤ int_ysa) (_ : int_ysa ≤ nyc) (_ : -1 ≤ sgntz) (_ : sgntz ≤ 1) (_ : -1 ≤ sgntx) (_ : sgntx ≤ 1) (_ : -1 ≤ sgnty) (_ : sgnty ≤ 1) (_ : sgntz = 1 → 1 ≤ i) (_ : sgntz = -1 → i ≤ nzc - 1) (_ : sgntx = 1 → 1 ≤ j) (_ : sgntx = -1 → j ≤ nxc - 1) (_ : sgnty = 1 → 1 ≤ k) (_ : sgnty = -1 → k ≤ nyc - 1) (_ : zsi = (min int_zsa (nzc - 1))) (_ : xsi = (min int_xsa (nxc - 1))) (_ : ysi = (min int_ysa (nyc - 1))) (_ : 0 ≤ i) (_ : i < (nzc + 1)) (_ : 0 ≤ j) (_ : j < (nxc + 1)) (_ : 0 ≤ k) (_ : k < (nyc + 1)) (_ : sgnty ≠ 0) :
    (0 ≤ i ∧ i < (nzc + 1)) ∧ (0 ≤ j ∧ j < (nxc + 1)) ∧ (0 ≤ (k - sgnty) ∧ (k - sgnty) < (nyc + 1)) := ⟨Idx.range, Idx.range, by lia⟩

theorem fteik3d_fteik3d_L481c24_ctx0 (i int_xsa int_ysa int_zsa j k nxc nyc nzc sgntx sgnty sgntz xsi ysi zsi : Int) (_ : 1 ≤ nzc) (_ : 1 ≤ nxc) (_ : 1 ≤ nyc) (_ : 0 ≤ int_zsa) (_ : int_zsa ≤ nzc) (_ : 0 ≤ int_xsa) (_ : int_xsa ≤ nxc) (_ : 0 ≤ int_ysa) (_ : int_ysa ≤ nyc) (_ : -1 ≤ sgntz) (_ : sgntz ≤ 1) (_ : -1 ≤ sgntx) (_ : sgntx ≤ 1) (_ : -1 ≤ sgnty) (_ : sgnty ≤ 1) (_ : sgntz = 1 → 1 ≤ i) (_ : sgntz = -1 → i ≤ nzc - 1) (_ : sgntx = 1 → 1 ≤ j) (_ : sgntx = -1 → j ≤ nxc - 1) (_ : sgnty = 1 → 1 ≤ k) (_ : sgnty = -1 → k ≤ nyc - 1) (_ : zsi = (min int_zsa (nzc - 1))) (_ : xsi = (min int_xsa (nxc - 1))) (_ : ysi = (min int_ysa (nyc - 1))) (_ : 0 ≤ i) (_ : i < (nzc + 1)) (_ : 0 ≤ j) (_ : j < (nxc + 1)) (_ : 0 ≤ k) (_ : k < (nyc + 1)) (_ : sgnty ≠ 0) :
    (0 ≤ i ∧ i < (nzc + 1)) ∧ (0 ≤ j ∧ j < (nxc + 1)) ∧ (0 ≤ k ∧ k < (nyc + 1)) ∧ (0 ≤ 2 ∧ 2 < 3) := ⟨Idx.range, Idx.range, Idx.range, by decide⟩

theorem fteik3d_fteik3d_L481c54_ctx0 (i int_xsa int_ysa int_zsa j k nxc nyc nzc sgntx sgnty sgntz xsi ysi zsi : Int) (_ : 1 ≤ nzc) (_ : 1 ≤ nxc) (_ : 1 ≤ nyc) (_ : 0 ≤ int_zsa) (_ : int_zsa ≤ nzc) (_ : 0 ≤ int_xsa) (_ : int_xsa ≤ nxc) (_ : 0 ≤ int_ysa) (_ : int_ysa ≤ nyc) (_ : -1 ≤ sgntz) (_ : sgntz ≤ 1) (_ : -1 ≤ sgntx) (_ : sgntx ≤ 1) (_ : -1 ≤ sgnty) (_ : sgnty ≤ 1) (_ : sgntz = 1 → 1 ≤ i) (_ : sgntz = -1 → i ≤ nzc - 1) (_ : sgntx = 1 → 1 ≤ j) (_ : sgntx = -1 → j ≤ nxc - 1) (_ : sgnty = 1 → 1 ≤ k) (_ : sgnty = -1 → k ≤ nyc - 1) (_ : zsi = (min int_zsa (nzc - 1))) (_ : xsi = (min int_xsa (nxc - 1))) (_ : ysi = (min int_ysa (nyc - 1))) (_ : 0 ≤ i) (_ : i < (nzc + 1)) (_ : 0 ≤ j) (_ : j < (nxc + 1)) (_ : 0 ≤ k) (_ : k < (nyc + 1)) (_ : sgnty ≠ 0) :
    (0 ≤ i ∧ i < (nzc + 1)) ∧ (0 ≤ j ∧ j < (nxc + 1)) ∧ (0 ≤ k ∧ k < (nyc + 1)) := ⟨Idx.range, Idx.range, Idx.range⟩

theorem fteik3d_fteik3d_L485c24_ctx0 (i int_xsa int_ysa int_zsa j k nxc nyc nzc sgntx sgnty sgntz xsi ysi zsi : Int) (_ : 1 ≤ nzc) (_ : 1 ≤ nxc) (_ : 1 ≤ nyc) (_ : 0 ≤ int_zsa) (_ : int_zsa ≤ nzc) (_ : 0 ≤ int_xsa) (_ : int_xsa ≤ nxc) (_ : 0 ≤ int_ysa) (_ : int_ysa ≤ nyc) (_ : -1 ≤ sgntz) (_ : sgntz ≤ 1) (_ : -1 ≤ sgntx) (_ : sgntx ≤ 1) (_ : -1 ≤ sgnty) (_ : sgnty ≤ 1) (_ : sgntz = 1 → 1 ≤ i) (_ : sgntz = -1 → i ≤ nzc - 1) (_ : sgntx = 1 → 1 ≤ j) (_ : sgntx = -1 → j ≤ nxc - 1) (_ : sgnty = 1 → 1 ≤ k) (_ : sgnty = -1 → k ≤ nyc - 1) (_ : zsi = (min int_zsa (nzc - 1))) (_ : xsi = (min int_xsa (nxc - 1))) (_ : ysi = (min int_ysa (nyc - 1))) (_ : 0 ≤ i) (_ : i < (nzc + 1)) (_ : 0 ≤ j) (_ : j < (nxc + 1)) (_ : 0 ≤ k) (_ : k < (nyc + 1)) :
    (0 ≤ i ∧ i < (nzc + 1)) ∧ (0 ≤ j ∧ j < (nxc + 1)) ∧ (0 ≤ k ∧ k < (nyc + 1)) ∧ (0 ≤ 0 ∧ 0 < 3) := ⟨Idx.range, Idx.range, Idx.range, by decide⟩

theorem fteik3d_fteik3d_L485c44_ctx0 (i int_xsa int_ysa int_zsa j k nxc nyc nzc sgntx sgnty sgntz xsi ysi zsi : Int) (_ : 1 ≤ nzc) (_ : 1 ≤ nxc) (_ : 1 ≤ nyc) (_ : 0 ≤ int_zsa) (_ : int_zsa ≤ nzc) (_ : 0 ≤ int_xsa) (_ : int_xsa ≤ nxc) (_ : 0 ≤ int_ysa) (_ : int_ysa ≤ nyc) (_ : -1 ≤ sgntz) (_ : sgntz ≤ 1) (_ : -1 ≤ sgntx) (_ : sgntx ≤ 1) (_ : -1 ≤ sgnty) (_ : sgnty ≤ 1) (_ : sgntz = 1 → 1 ≤ i) (_ : sgntz = -1 → i ≤ nzc - 1) (_ : sgntx = 1 → 1 ≤ j) (_ : sgntx = -1 → j ≤ nxc - 1) (_ : sgnty = 1 → 1 ≤ k) (_ : sgnty = -1 → k ≤ nyc - 1) (_ : zsi = (min int_zsa (nzc - 1))) (_ : xsi = (min int_xsa (nxc - 1))) (_ : ysi = (min int_ysa (nyc - 1))) (_ : 0 ≤ i) (_ : i < (nzc + 1)) (_ : 0 ≤ j) (_ : j < (nxc + 1)) (_ : 0 ≤ k) (_ : k < (nyc + 1)) :
    (0 ≤ i ∧ i < (nzc + 1)) ∧ (0 ≤ j ∧ j < (nxc + 1)) ∧ (0 ≤ k ∧ k < (nyc + 1)) ∧ (0 ≤ 1 ∧ 1 < 3) := ⟨Idx.range, Idx.range, Idx.range, by decide⟩

theorem fteik3d_fteik3d_L485c64_ctx0 (i int_xsa int_ysa int_zsa j k nxc nyc nzc sgntx sgnty sgntz xsi ysi zsi : Int) (_ : 1 ≤ nzc) (_ : 1 ≤ nxc) (_ : 1 ≤ nyc) (_ : 0 ≤ int_zsa) (_ : int_zsa ≤ nzc) (_ : 0 ≤ int_xsa) (_ : int_xsa ≤ nxc) (_ : 0 ≤ int_ysa) (_ : int_ysa ≤ nyc) (_ : -1 ≤ sgntz) (_ : sgntz ≤ 1) (_ : -1 ≤ sgntx) (_ : sgntx ≤ 1) (_ : -1 ≤ sgnty) (_ : sgnty ≤ 1) (_ : sgntz = 1 → 1 ≤ i) (_ : sgntz = -1 → i ≤ nzc - 1) (_ : sgntx = 1 → 1 ≤ j) (_ : sgntx = -1 → j ≤ nxc - 1) (_ : sgnty = 1 → 1 ≤ k) (_ : sgnty = -1 → k ≤ nyc - 1) (_ : zsi = (min int_zsa (nzc - 1))) (_ : xsi = (min int_xsa (nxc - 1))) (_ : ysi = (min int_ysa (nyc - 1))) (_ : 0 ≤ i) (_ : i < (nzc + 1)) (_ : 0 ≤ j) (_ : j < (nxc + 1)) (_ : 0 ≤ k) (_ : k < (nyc + 1)) :
    (0 ≤ i ∧ i < (nzc + 1)) ∧ (0 ≤ j ∧ j < (nxc + 1)) ∧ (0 ≤ k ∧ k < (nyc + 1)) ∧ (0 ≤ 2 ∧ 2 < 3) := ⟨Idx.range, Idx.range, Idx.range, by decide⟩

theorem fteik3d_fteik3d_L488c24_ctx0 (i int_xsa int_ysa int_zsa j k nxc nyc nzc sgntx sgnty sgntz xsi ysi zsi : Int) (_ : 1 ≤ nzc) (_ : 1 ≤ nxc) (_ : 1 ≤ nyc) (_ : 0 ≤ int_zsa) (_ : int_zsa ≤ nzc) (_ : 0 ≤ int_xsa) (_ : int_xsa ≤ nxc) (_ : 0 ≤ int_ysa) (_ : int_ysa ≤ nyc) (_ : -1 ≤ sgntz) (_ : sgntz ≤ 1) (_ : -1 ≤ sgntx) (_ : sgntx ≤ 1) (_ : -1 ≤ sgnty) (_ : sgnty ≤ 1) (_ : sgntz = 1 → 1 ≤ i) (_ : sgntz = -1 → i ≤ nzc - 1) (_ : sgntx = 1 → 1 ≤ j) (_ : sgntx = -1 → j ≤ nxc - 1) (_ : sgnty = 1 → 1 ≤ k) (_ : sgnty = -1 → k ≤ nyc - 1) (_ : zsi = (min int_zsa (nzc - 1))) (_ : xsi = (min int_xsa (nxc - 1))) (_ : ysi = (min int_ysa (nyc - 1))) (_ : 0 ≤ i) (_ : i < (nzc + 1)) (_ : 0 ≤ j) (_ : j < (nxc + 1)) (_ : 0 ≤ k) (_ : k < (nyc + 1)) :
    (0 ≤ i ∧ i < (nzc + 1)) ∧ (0 ≤ j ∧ j < (nxc + 1)) ∧ (0 ≤ k ∧ k < (nyc + 1)) := ⟨Idx.range, Idx.range, Idx.range⟩

theorem interp2d_interp2d_L10c12_ctx0 (i1 i2 j1 j2 nx ny : Int) (_ : 1 ≤ nx) (_ : 0 ≤ i1) (_ : i1 ≤ nx) (_ : i2 = i1 + 1) (_ : 1 ≤ ny) (_ : 0 ≤ j1) (_ : j1 ≤ ny) (_ : j2 = j1 + 1) :
    (0 ≤ 0 ∧ 0 < (nx + 1)) := Idx.first

theorem interp2d_interp2d_L10c26_ctx0 (i1 i2 j1 j2 nx ny : Int) (_ : 1 ≤ nx) (_ : 0 ≤ i1) (_ : i1 ≤ nx) (_ : i2 = i1 + 1) (_ : 1 ≤ ny) (_ : 0 ≤ j1) (_ : j1 ≤ ny) (_ : j2 = j1 + 1) :
    (1 ≤ (nx + 1)) := Idx.last

theorem interp2d_interp2d_L11c12_ctx0 (i1 i2 j1 j2 nx ny : Int) (_ : 1 ≤ nx) (_ : 0 ≤ i1) (_ : i1 ≤ nx) (_ : i2 = i1 + 1) (_ : 1 ≤ ny) (_ : 0 ≤ j1) (_ : j1 ≤ ny) (_ : j2 = j1 + 1) :
    (0 ≤ 0 ∧ 0 < (ny + 1)) := Idx.first

theorem interp2d_interp2d_L11c26_ctx0 (i1 i2 j1 j2 nx ny : Int) (_ : 1 ≤ nx) (_ : 0 ≤ i1) (_ : i1 ≤ nx) (_ : i2 = i1 + 1) (_ : 1 ≤ ny) (_ : 0 ≤ j1) (_ : j1 ≤ ny) (_ : j2 = j1 + 1) :
    (1 ≤ (ny + 1)) := Idx.last

theorem interp2d_interp2d_L25c13_ctx0 (i1 i2 j1 j2 nx ny : Int) (_ : 1 ≤ nx) (_ : 0 ≤ i1) (_ : i1 ≤ nx) (_ : i2 = i1 + 1) (_ : 1 ≤ ny) (_ : 0 ≤ j1) (_ : j1 ≤ ny) (_ : j2 = j1 + 1) (_ : i2 = (i1 + 1)) (_ : j2 = (j1 + 1)) (_ : (i1 = nx) ∧ (j1 ≠ ny)) :
    (0 ≤ i1 ∧ i1 < (nx + 1)) := Idx.node

theorem interp2d_interp2d_L26c24_ctx0 (i1 i2 j1 j2 nx ny : Int) (_ : 1 ≤ nx) (_ : 0 ≤ i1) (_ : i1 ≤ nx) (_ : i2 = i1 + 1) (_ : 1 ≤ ny) (_ : 0 ≤ j1) (_ : j1 ≤ ny) (_ : j2 = j1 + 1) (_ : i2 = (i1 + 1)) (_ : j2 = (j1 + 1)) (_ : (i1 = nx) ∧ (j1 ≠ ny)) :
    (2 ≤ (nx + 1)) := Idx.lastButOne

theorem interp2d_interp2d_L27c13_ctx0 (i1 i2 j1 j2 nx ny : Int) (_ : 1 ≤ nx) (_ : 0 ≤ i1) (_ : i1 ≤ nx) (_ : i2 = i1 + 1) (_ : 1 ≤ ny) (_ : 0 ≤ j1) (_ : j1 ≤ ny) (_ : j2 = j1 + 1) (_ : i2 = (i1 + 1)) (_ : j2 = (j1 + 1)) (_ : (i1 = nx) ∧ (j1 ≠ ny)) :
    (0 ≤ j1 ∧ j1 < (ny + 1)) := Idx.node

theorem interp2d_interp2d_L28c13_ctx0 (i1 i2 j1 j2 nx ny : Int) (_ : 1 ≤ nx) (_ : 0 ≤ i1) (_ : i1 ≤ nx) (_ : i2 = i1 + 1) (_ : 1 ≤ ny) (_ : 0 ≤ j1) (_ : j1 ≤ ny) (_ : j2 = j1 + 1) (_ : i2 = (i1 + 1)) (_ : j2 = (j1 + 1)) (_ : (i1 = nx) ∧ (j1 ≠ ny)) :
    (0 ≤ j2 ∧ j2 < (ny + 1)) := by lia

theorem interp2d_interp2d_L30c14_ctx0 (i1 i2 j1 j2 nx ny : Int) (_ : 1 ≤ nx) (_ : 0 ≤ i1) (_ : i1 ≤ nx) (_ : i2 = i1 + 1) (_ : 1 ≤ ny) (_ : 0 ≤ j1) (_ : j1 ≤ ny) (_ : j2 = j1 + 1) (_ : i2 = (i1 + 1)) (_ : j2 = (j1 + 1)) (_ : (i1 = nx) ∧ (j1 ≠ ny)) :
    (0 ≤ i1 ∧ i1 < (nx + 1)) ∧ (0 ≤ j1 ∧ j1 < (ny + 1)) := ⟨Idx.node, Idx.node⟩

theorem interp2d_interp2d_L32c14_ctx0 (i1 i2 j1 j2 nx ny : Int) (_ : 1 ≤ nx) (_ : 0 ≤ i1) (_ : i1 ≤ nx) (_ : i2 = i1 + 1) (_ : 1 ≤ ny) (_ : 0 ≤ j1) (_ : j1 ≤ ny) (_ : j2 = j1 + 1) (_ : i2 = (i1 + 1)) (_ : j2 = (j1 + 1)) (_ : (i1 = nx) ∧ (j1 ≠ ny)) :
    (0 ≤ i1 ∧ i1 < (nx + 1)) ∧ (0 ≤ j2 ∧ j2 < (ny + 1)) := ⟨Idx.node, by lia⟩

theorem interp2d_interp2d_L36c13_ctx0 (i1 i2 j1 j2 nx ny : Int) (_ : 1 ≤ nx) (_ : 0 ≤ i1) (_ : i1 ≤ nx) (_ : i2 = i1 + 1) (_ : 1 ≤ ny) (_ : 0 ≤ j1) (_ : j1 ≤ ny) (_ : j2 = j1 + 1) (_ : i2 = (i1 + 1)) (_ : j2 = (j1 + 1)) (_ : ¬ ((i1 = nx) ∧ (j1 ≠ ny))) (_ : (i1 ≠ nx) ∧ (j1 = ny)) :
    (0 ≤ i1 ∧ i1 < (nx + 1)) := Idx.node

theorem interp2d_interp2d_L37c13_ctx0 (i1 i2 j1 j2 nx ny : Int) (_ : 1 ≤ nx) (_ : 0 ≤ i1) (_ : i1 ≤ nx) (_ : i2 = i1 + 1) (_ : 1 ≤ ny) (_ : 0 ≤ j1) (_ : j1 ≤ ny) (_ : j2 = j1 + 1) (_ : i2 = (i1 + 1)) (_ : j2 = (j1 + 1)) (_ : ¬ ((i1 = nx) ∧ (j1 ≠ ny))) (_ : (i1 ≠ nx) ∧ (j1 = ny)) :
    (0 ≤ i2 ∧ i2 < (nx + 1)) := by lia

theorem interp2d_interp2d_L38c13_ctx0 (i1 i2 j1 j2 nx ny : Int) (_ : 1 ≤ nx) (_ : 0 ≤ i1) (_ : i1 ≤ nx) (_ : i2 = i1 + 1) (_ : 1 ≤ ny) (_ : 0 ≤ j1) (_ : j1 ≤ ny) (_ : j2 = j1 + 1) (_ : i2 = (i1 + 1)) (_ : j2 = (j1 + 1)) (_ : ¬ ((i1 = nx) ∧ (j1 ≠ ny))) (_ : (i1 ≠ nx) ∧ (j1 = ny)) :
    (0 ≤ j1 ∧ j1 < (ny + 1)) := Idx.node

theorem interp2d_interp2d_L39c24_ctx0 (i1 i2 j1 j2 nx ny : Int) (_ : 1 ≤ nx) (_ : 0 ≤ i1) (_ : i1 ≤ nx) (_ : i2 = i1 + 1) (_ : 1 ≤ ny) (_ : 0 ≤ j1) (_ : j1 ≤ ny) (_ : j2 = j1 + 1) (_ : i2 = (i1 + 1)) (_ : j2 = (j1 + 1)) (_ : ¬ ((i1 = nx) ∧ (j1 ≠ ny))) (_ : (i1 ≠ nx) ∧ (j1 = ny)) :
    (2 ≤ (ny + 1)) := Idx.lastButOne

theorem interp2d_interp2d_L41c14_ctx0 (i1 i2 j1 j2 nx ny : Int) (_ : 1 ≤ nx) (_ : 0 ≤ i1) (_ : i1 ≤ nx) (_ : i2 = i1 + 1) (_ : 1 ≤ ny) (_ : 0 ≤ j1) (_ : j1 ≤ ny) (_ : j2 = j1 + 1) (_ : i2 = (i1 + 1)) (_ : j2 = (j1 + 1)) (_ : ¬ ((i1 = nx) ∧ (j1 ≠ ny))) (_ : (i1 ≠ nx) ∧ (j1 = ny)) :
    (0 ≤ i1 ∧ i1 < (nx + 1)) ∧ (0 ≤ j1 ∧ j1 < (ny + 1)) := ⟨Idx.node, Idx.node⟩

theorem interp2d_interp2d_L42c14_ctx0 (i1 i2 j1 j2 nx ny : Int) (_ : 1 ≤ nx) (_ : 0 ≤ i1) (_ : i1 ≤ nx) (_ : i2 = i1 + 1) (_ : 1 ≤ ny) (_ : 0 ≤ j1) (_ : j1 ≤ ny) (_ : j2 = j1 + 1) (_ : i2 = (i1 + 1)) (_ : j2 = (j1 + 1)) (_ : ¬ ((i1 = nx) ∧ (j1 ≠ ny))) (_ : (i1 ≠ nx) ∧ (j1 = ny)) :
    (0 ≤ i2 ∧ i2 < (nx + 1)) ∧ (0 ≤ j1 ∧ j1 < (ny + 1)) := ⟨by lia, Idx.node⟩

theorem interp2d_interp2d_L47c13_ctx0 (i1 i2 j1 j2 nx ny : Int) (_ : 1 ≤ nx) (_ : 0 ≤ i1) (_ : i1 ≤ nx) (_ : i2 = i1 + 1) (_ : 1 ≤ ny) (_ : 0 ≤ j1) (_ : j1 ≤ ny) (_ : j2 = j1 + 1) (_ : i2 = (i1 + 1)) (_ : j2 = (j1 + 1)) (_ : ¬ ((i1 = nx) ∧ (j1 ≠ ny))) (_ : ¬ ((i1 ≠ nx) ∧ (j1 = ny))) (_ : (i1 = nx) ∧ (j1 = ny)) :
    (0 ≤ i1 ∧ i1 < (nx + 1)) := Idx.node

theorem interp2d_interp2d_L48c24_ctx0 (i1 i2 j1 j2 nx ny : Int) (_ : 1 ≤ nx) (_ : 0 ≤ i1) (_ : i1 ≤ nx) (_ : i2 = i1 + 1) (_ : 1 ≤ ny) (_ : 0 ≤ j1) (_ : j1 ≤ ny) (_ : j2 = j1 + 1) (_ : i2 = (i1 + 1)) (_ : j2 = (j1 + 1)) (_ : ¬ ((i1 = nx) ∧ (j1 ≠ ny))) (_ : ¬ ((i1 ≠ nx) ∧ (j1 = ny))) (_ : (i1 = nx) ∧ (j1 = ny)) :
    (2 ≤ (nx + 1)) := Idx.lastButOne

theorem interp2d_interp2d_L49c13_ctx0 (i1 i2 j1 j2 nx ny : Int) (_ : 1 ≤ nx) (_ : 0 ≤ i1) (_ : i1 ≤ nx) (_ : i2 = i1 + 1) (_ : 1 ≤ ny) (_ : 0 ≤ j1) (_ : j1 ≤ ny) (_ : j2 = j1 + 1) (_ : i2 = (i1 + 1)) (_ : j2 = (j1 + 1)) (_ : ¬ ((i1 = nx) ∧ (j1 ≠ ny))) (_ : ¬ ((i1 ≠ nx) ∧ (j1 = ny))) (_ : (i1 = nx) ∧ (j1 = ny)) :
    (0 ≤ j1 ∧ j1 < (ny + 1)) := Idx.node

theorem interp2d_interp2d_L50c24_ctx0 (i1 i2 j1 j2 nx ny : Int) (_ : 1 ≤ nx) (_ : 0 ≤ i1) (_ : i1 ≤ nx) (_ : i2 = i1 + 1) (_ : 1 ≤ ny) (_ : 0 ≤ j1) (_ : j1 ≤ ny) (_ : j2 = j1 + 1) (_ : i2 = (i1 + 1)) (_ : j2 = (j1 + 1)) (_ : ¬ ((i1 = nx) ∧ (j1 ≠ ny))) (_ : ¬ ((i1 ≠ nx) ∧ (j1 = ny))) (_ : (i1 = nx) ∧ (j1 = ny)) :
    (2 ≤ (ny + 1)) := Idx.lastButOne

theorem interp2d_interp2d_L52c14_ctx0 (i1 i2 j1 j2 nx ny : Int) (_ : 1 ≤ nx) (_ : 0 ≤ i1) (_ : i1 ≤ nx) (_ : i2 = i1 + 1) (_ : 1 ≤ ny) (_ : 0 ≤ j1) (_ : j1 ≤ ny) (_ : j2 = j1 + 1) (_ : i2 = (i1 + 1)) (_ : j2 = (j1 + 1)) (_ : ¬ ((i1 = nx) ∧ (j1 ≠ ny))) (_ : ¬ ((i1 ≠ nx) ∧ (j1 = ny))) (_ : (i1 = nx) ∧ (j1 = ny)) :
    (0 ≤ i1 ∧ i1 < (nx + 1)) ∧ (0 ≤ j1 ∧ j1 < (ny + 1)) := ⟨Idx.node, Idx.node⟩

theorem interp2d_interp2d_L58c13_ctx0 (i1 i2 j1 j2 nx ny : Int) (_ : 1 ≤ nx) (_ : 0 ≤ i1) (_ : i1 ≤ nx) (_ : i2 = i1 + 1) (_ : 1 ≤ ny) (_ : 0 ≤ j1) (_ : j1 ≤ ny) (_ : j2 = j1 + 1) (_ : i2 = (i1 + 1)) (_ : j2 = (j1 + 1)) (_ : ¬ ((i1 = nx) ∧ (j1 ≠ ny))) (_ : ¬ ((i1 ≠ nx) ∧ (j1 = ny))) (_ : ¬ ((i1 = nx) ∧ (j1 = ny))) :
    (0 ≤ i1 ∧ i1 < (nx + 1)) := Idx.node

theorem interp2d_interp2d_L59c13_ctx0 (i1 i2 j1 j2 nx ny : Int) (_ : 1 ≤ nx) (_ : 0 ≤ i1) (_ : i1 ≤ nx) (_ : i2 = i1 + 1) (_ : 1 ≤ ny) (_ : 0 ≤ j1) (_ : j1 ≤ ny) (_ : j2 = j1 + 1) (_ : i2 = (i1 + 1)) (_ : j2 = (j1 + 1)) (_ : ¬ ((i1 = nx) ∧ (j1 ≠ ny))) (_ : ¬ ((i1 ≠ nx) ∧ (j1 = ny))) (_ : ¬ ((i1 = nx) ∧ (j1 = ny))) :
    (0 ≤ i2 ∧ i2 < (nx + 1)) := by lia

theorem interp2d_interp2d_L60c13_ctx0 (i1 i2 j1 j2 nx ny : Int) (_ : 1 ≤ nx) (_ : 0 ≤ i1) (_ : i1 ≤ nx) (_ : i2 = i1 + 1) (_ : 1 ≤ ny) (_ : 0 ≤ j1) (_ : j1 ≤ ny) (_ : j2 = j1 + 1) (_ : i2 = (i1 + 1)) (_ : j2 = (j1 + 1)) (_ : ¬ ((i1 = nx) ∧ (j1 ≠ ny))) (_ : ¬ ((i1 ≠ nx) ∧ (j1 = ny))) (_ : ¬ ((i1 = nx) ∧ (j1 = ny))) :
    (0 ≤ j1 ∧ j1 < (ny + 1)) := Idx.node

theorem interp2d_interp2d_L61c13_ctx0 (i1 i2 j1 j2 nx ny : Int) (_ : 1 ≤ nx) (_ : 0 ≤ i1) (_ : i1 ≤ nx) (_ : i2 = i1 + 1) (_ : 1 ≤ ny) (_ : 0 ≤ j1) (_ : j1 ≤ ny) (_ : j2 = j1 + 1) (_ : i2 = (i1 + 1)) (_ : j2 = (j1 + 1)) (_ : ¬ ((i1 = nx) ∧ (j1 ≠ ny))) (_ : ¬ ((i1 ≠ nx) ∧ (j1 = ny))) (_ : ¬ ((i1 = nx) ∧ (j1 = ny))) :
    (0 ≤ j2 ∧ j2 < (ny + 1)) := by lia

theorem interp2d_interp2d_L63c14_ctx0 (i1 i2 j1 j2 nx ny : Int) (_ : 1 ≤ nx) (_ : 0 ≤ i1) (_ : i1 ≤ nx) (_ : i2 = i1 + 1) (_ : 1 ≤ ny) (_ : 0 ≤ j1) (_ : j1 ≤ ny) (_ : j2 = j1 + 1) (_ : i2 = (i1 + 1)) (_ : j2 = (j1 + 1)) (_ : ¬ ((i1 = nx) ∧ (j1 ≠ ny))) (_ : ¬ ((i1 ≠ nx) ∧ (j1 = ny))) (_ : ¬ ((i1 = nx) ∧ (j1 = ny))) :
    (0 ≤ i1 ∧ i1 < (nx + 1)) ∧ (0 ≤ j1 ∧ j1 < (ny + 1)) := ⟨Idx.node, Idx.node⟩

theorem interp2d_interp2d_L64c14_ctx0 (i1 i2 j1 j2 nx ny : Int) (_ : 1 ≤ nx) (_ : 0 ≤ i1) (_ : i1 ≤ nx) (_ : i2 = i1 + 1) (_ : 1 ≤ ny) (_ : 0 ≤ j1) (_ : j1 ≤ ny) (_ : j2 = j1 + 1) (_ : i2 = (i1 + 1)) (_ : j2 = (j1 + 1)) (_ : ¬ ((i1 = nx) ∧ (j1 ≠ ny))) (_ : ¬ ((i1 ≠ nx) ∧ (j1 = ny))) (_ : ¬ ((i1 = nx) ∧ (j1 = ny))) :
    (0 ≤ i2 ∧ i2 < (nx + 1)) ∧ (0 ≤ j1 ∧ j1 < (ny + 1)) := ⟨by lia, Idx.node⟩

theorem interp2d_interp2d_L65c14_ctx0 (i1 i2 j1 j2 nx ny : Int) (_ : 1 ≤ nx) (_ : 0 ≤ i1) (_ : i1 ≤ nx) (_ : i2 = i1 + 1) (_ : 1 ≤ ny) (_ : 0 ≤ j1) (_ : j1 ≤ ny) (_ : j2 = j1 + 1) (_ : i2 = (i1 + 1)) (_ : j2 = (j1 + 1)) (_ : ¬ ((i1 = nx) ∧ (j1 ≠ ny))) (_ : ¬ ((i1 ≠ nx) ∧ (j1 = ny))) (_ : ¬ ((i1 = nx) ∧ (j1 = ny))) :
    (0 ≤ i1 ∧ i1 < (nx + 1)) ∧ (0 ≤ j2 ∧ j2 < (ny + 1)) := ⟨Idx.node, by lia⟩

theorem interp2d_interp2d_L66c14_ctx0 (i1 i2 j1 j2 nx ny : Int) (_ : 1 ≤ nx) (_ : 0 ≤ i1) (_ : i1 ≤ nx) (_ : i2 = i1 + 1) (_ : 1 ≤ ny) (_ : 0 ≤ j1) (_ : j1 ≤ ny) (_ : j2 = j1 + 1) (_ : i2 = (i1 + 1)) (_ : j2 = (j1 + 1)) (_ : ¬ ((i1 = nx) ∧ (j1 ≠ ny))) (_ : ¬ ((i1 ≠ nx) ∧ (j1 = ny))) (_ : ¬ ((i1 = nx) ∧ (j1 = ny))) :
    (0 ≤ i2 ∧ i2 < (nx + 1)) ∧ (0 ≤ j2 ∧ j2 < (ny + 1)) := by lia

theorem vinterp2d_vinterp2d_L10c12_ctx0 (i1 i2 j1 j2 nx ny : Int) (_ : 1 ≤ nx) (_ : 0 ≤ i1) (_ : i1 ≤ nx) (_ : i2 = i1 + 1) (_ : 1 ≤ ny) (_ : 0 ≤ j1) (_ : j1 ≤ ny) (_ : j2 = j1 + 1) :
    (0 ≤ 0 ∧ 0 < (nx + 1)) := Idx.first

theorem vinterp2d_vinterp2d_L10c26_ctx0 (i1 i2 j1 j2 nx ny : Int) (_ : 1 ≤ nx) (_ : 0 ≤ i1) (_ : i1 ≤ nx) (_ : i2 = i1 + 1) (_ : 1 ≤ ny) (_ : 0 ≤ j1) (_ : j1 ≤ ny) (_ : j2 = j1 + 1) :
    (1 ≤ (nx + 1)) := Idx.last

theorem vinterp2d_vinterp2d_L11c12_ctx0 (i1 i2 j1 j2 nx ny : Int) (_ : 1 ≤ nx) (_ : 0 ≤ i1) (_ : i1 ≤ nx) (_ : i2 = i1 + 1) (_ : 1 ≤ ny) (_ : 0 ≤ j1) (_ : j1 ≤ ny) (_ : j2 = j1 + 1) :
    (0 ≤ 0 ∧ 0 < (ny + 1)) := Idx.first

theorem vinterp2d_vinterp2d_L11c26_ctx0 (i1 i2 j1 j2 nx ny : Int) (_ : 1 ≤ nx) (_ : 0 ≤ i1) (_ : i1 ≤ nx) (_ : i2 = i1 + 1) (_ : 1 ≤ ny) (_ : 0 ≤ j1) (_ : j1 ≤ ny) (_ : j2 = j1 + 1) :
    (1 ≤ (ny + 1)) := Idx.last

theorem vinterp2d_vinterp2d_L31c17_ctx0 (i1 i2 j1 j2 nx ny xsi ysi : Int) (_ : 1 ≤ nx) (_ : 0 ≤ i1) (_ : i1 ≤ nx) (_ : i2 = i1 + 1) (_ : 1 ≤ ny) (_ : 0 ≤ j1) (_ : j1 ≤ ny) (_ : j2 = j1 + 1) (_ : ¬ ((xsi = i1) ∧ (ysi = j1))) (_ : i2 = (i1 + 1)) (_ : j2 = (j1 + 1)) (_ : (i1 = nx) ∧ (j1 ≠ ny)) :
    (0 ≤ i1 ∧ i1 < (nx + 1)) := Idx.node

theorem vinterp2d_vinterp2d_L32c28_ctx0 (i1 i2 j1 j2 nx ny xsi ysi : Int) (_ : 1 ≤ nx) (_ : 0 ≤ i1) (_ : i1 ≤ nx) (_ : i2 = i1 + 1) (_ : 1 ≤ ny) (_ : 0 ≤ j1) (_ : j1 ≤ ny) (_ : j2 = j1 + 1) (_ : ¬ ((xsi = i1) ∧ (ysi = j1))) (_ : i2 = (i1 + 1)) (_ : j2 = (j1 + 1)) (_ : (i1 = nx) ∧ (j1 ≠ ny)) :
    (2 ≤ (nx + 1)) := Idx.lastButOne

theorem vinterp2d_vinterp2d_L33c17_ctx0 (i1 i2 j1 j2 nx ny xsi ysi : Int) (_ : 1 ≤ nx) (_ : 0 ≤ i1) (_ : i1 ≤ nx) (_ : i2 = i1 + 1) (_ : 1 ≤ ny) (_ : 0 ≤ j1) (_ : j1 ≤ ny) (_ : j2 = j1 + 1) (_ : ¬ ((xsi = i1) ∧ (ysi = j1))) (_ : i2 = (i1 + 1)) (_ : j2 = (j1 + 1)) (_ : (i1 = nx) ∧ (j1 ≠ ny)) :
    (0 ≤ j1 ∧ j1 < (ny + 1)) := Idx.node

theorem vinterp2d_vinterp2d_L34c17_ctx0 (i1 i2 j1 j2 nx ny xsi ysi : Int) (_ : 1 ≤ nx) (_ : 0 ≤ i1) (_ : i1 ≤ nx) (_ : i2 = i1 + 1) (_ : 1 ≤ ny) (_ : 0 ≤ j1) (_ : j1 ≤ ny) (_ : j2 = j1 + 1) (_ : ¬ ((xsi = i1) ∧ (ysi = j1))) (_ : i2 = (i1 + 1)) (_ : j2 = (j1 + 1)) (_ : (i1 = nx) ∧ (j1 ≠ ny)) :
    (0 ≤ j2 ∧ j2 < (ny + 1)) := by lia

theorem vinterp2d_vinterp2d_L41c18_ctx0 (i1 i2 j1 j2 nx ny xsi ysi : Int) (_ : 1 ≤ nx) (_ : 0 ≤ i1) (_ : i1 ≤ nx) (_ : i2 = i1 + 1) (_ : 1 ≤ ny) (_ : 0 ≤ j1) (_ : j1 ≤ ny) (_ : j2 = j1 + 1) (_ : ¬ ((xsi = i1) ∧ (ysi = j1))) (_ : i2 = (i1 + 1)) (_ : j2 = (j1 + 1)) (_ : (i1 = nx) ∧ (j1 ≠ ny)) :
    (0 ≤ i1 ∧ i1 < (nx + 1)) ∧ (0 ≤ j1 ∧ j1 < (ny + 1)) := ⟨Idx.node, Idx.node⟩

theorem vinterp2d_vinterp2d_L43c18_ctx0 (i1 i2 j1 j2 nx ny xsi ysi : Int) (_ : 1 ≤ nx) (_ : 0 ≤ i1) (_ : i1 ≤ nx) (_ : i2 = i1 + 1) (_ : 1 ≤ ny) (_ : 0 ≤ j1) (_ : j1 ≤ ny) (_ : j2 = j1 + 1) (_ : ¬ ((xsi = i1) ∧ (ysi = j1))) (_ : i2 = (i1 + 1)) (_ : j2 = (j1 + 1)) (_ : (i1 = nx) ∧ (j1 ≠ ny)) :
    (0 ≤ i1 ∧ i1 < (nx + 1)) ∧ (0 ≤ j2 ∧ j2 < (ny + 1)) := ⟨Idx.node, by lia⟩

theorem vinterp2d_vinterp2d_L47c17_ctx0 (i1 i2 j1 j2 nx ny xsi ysi : Int) (_ : 1 ≤ nx) (_ : 0 ≤ i1) (_ : i1 ≤ nx) (_ : i2 = i1 + 1) (_ : 1 ≤ ny) (_ : 0 ≤ j1) (_ : j1 ≤ ny) (_ : j2 = j1 + 1) (_ : ¬ ((xsi = i1) ∧ (ysi = j1))) (_ : i2 = (i1 + 1)) (_ : j2 = (j1 + 1)) (_ : ¬ ((i1 = nx) ∧ (j1 ≠ ny))) (_ : (i1 ≠ nx) ∧ (j1 = ny)) :
    (0 ≤ i1 ∧ i1 < (nx + 1)) := Idx.node

theorem vinterp2d_vinterp2d_L48c17_ctx0 (i1 i2 j1 j2 nx ny xsi ysi : Int) (_ : 1 ≤ nx) (_ : 0 ≤ i1) (_ : i1 ≤ nx) (_ : i2 = i1 + 1) (_ : 1 ≤ ny) (_ : 0 ≤ j1) (_ : j1 ≤ ny) (_ : j2 = j1 + 1) (_ : ¬ ((xsi = i1) ∧ (ysi = j1))) (_ : i2 = (i1 + 1)) (_ : j2 = (j1 + 1)) (_ : ¬ ((i1 = nx) ∧ (j1 ≠ ny))) (_ : (i1 ≠ nx) ∧ (j1 = ny)) :
    (0 ≤ i2 ∧ i2 < (nx + 1)) := by lia

theorem vinterp2d_vinterp2d_L49c17_ctx0 (i1 i2 j1 j2 nx ny xsi ysi : Int) (_ : 1 ≤ nx) (_ : 0 ≤ i1) (_ : i1 ≤ nx) (_ : i2 = i1 + 1) (_ : 1 ≤ ny) (_ : 0 ≤ j1) (_ : j1 ≤ ny) (_ : j2 = j1 + 1) (_ : ¬ ((xsi = i1) ∧ (ysi = j1))) (_ : i2 = (i1 + 1)) (_ : j2 = (j1 + 1)) (_ : ¬ ((i1 = nx) ∧ (j1 ≠ ny))) (_ : (i1 ≠ nx) ∧ (j1 = ny)) :
    (0 ≤ j1 ∧ j1 < (ny + 1)) := Idx.node

theorem vinterp2d_vinterp2d_L50c28_ctx0 (i1 i2 j1 j2 nx ny xsi ysi : Int) (_ : 1 ≤ nx) (_ : 0 ≤ i1) (_ : i1 ≤ nx) (_ : i2 = i1 + 1) (_ : 1 ≤ ny) (_ : 0 ≤ j1) (_ : j1 ≤ ny) (_ : j2 = j1 + 1) (_ : ¬ ((xsi = i1) ∧ (ysi = j1))) (_ : i2 = (i1 + 1)) (_ : j2 = (j1 + 1)) (_ : ¬ ((i1 = nx) ∧ (j1 ≠ ny))) (_ : (i1 ≠ nx) ∧ (j1 = ny)) :
    (2 ≤ (ny + 1)) := Idx.lastButOne

theorem vinterp2d_vinterp2d_L57c18_ctx0 (i1 i2 j1 j2 nx ny xsi ysi : Int) (_ : 1 ≤ nx) (_ : 0 ≤ i1) (_ : i1 ≤ nx) (_ : i2 = i1 + 1) (_ : 1 ≤ ny) (_ : 0 ≤ j1) (_ : j1 ≤ ny) (_ : j2 = j1 + 1) (_ : ¬ ((xsi = i1) ∧ (ysi = j1))) (_ : i2 = (i1 + 1)) (_ : j2 = (j1 + 1)) (_ : ¬ ((i1 = nx) ∧ (j1 ≠ ny))) (_ : (i1 ≠ nx) ∧ (j1 = ny)) :
    (0 ≤ i1 ∧ i1 < (nx + 1)) ∧ (0 ≤ j1 ∧ j1 < (ny + 1)) := ⟨Idx.node, Idx.node⟩

theorem vinterp2d_vinterp2d_L58c18_ctx0 (i1 i2 j1 j2 nx ny xsi ysi : Int) (_ : 1 ≤ nx) (_ : 0 ≤ i1) (_ : i1 ≤ nx) (_ : i2 = i1 + 1) (_ : 1 ≤ ny) (_ : 0 ≤ j1) (_ : j1 ≤ ny) (_ : j2 = j1 + 1) (_ : ¬ ((xsi = i1) ∧ (ysi = j1))) (_ : i2 = (i1 + 1)) (_ : j2 = (j1 + 1)) (_ : ¬ ((i1 = nx) ∧ (j1 ≠ ny))) (_ : (i1 ≠ nx) ∧ (j1 = ny)) :
    (0 ≤ i2 ∧ i2 < (nx + 1)) ∧ (0 ≤ j1 ∧ j1 < (ny + 1)) := ⟨by lia, Idx.node⟩

theorem vinterp2d_vinterp2d_L63c17_ctx0 (i1 i2 j1 j2 nx ny xsi ysi : Int) (_ : 1 ≤ nx) (_ : 0 ≤ i1) (_ : i1 ≤ nx) (_ : i2 = i1 + 1) (_ : 1 ≤ ny) (_ : 0 ≤ j1) (_ : j1 ≤ ny) (_ : j2 = j1 + 1) (_ : ¬ ((xsi = i1) ∧ (ysi = j1))) (_ : i2 = (i1 + 1)) (_ : j2 = (j1 + 1)) (_ : ¬ ((i1 = nx) ∧ (j1 ≠ ny))) (_ : ¬ ((i1 ≠ nx) ∧ (j1 = ny))) (_ : (i1 = nx) ∧ (j1 = ny)) :
    (0 ≤ i1 ∧ i1 < (nx + 1)) := Idx.node

theorem vinterp2d_vinterp2d_L64c28_ctx0 (i1 i2 j1 j2 nx ny xsi ysi : Int) (_ : 1 ≤ nx) (_ : 0 ≤ i1) (_ : i1 ≤ nx) (_ : i2 = i1 + 1) (_ : 1 ≤ ny) (_ : 0 ≤ j1) (_ : j1 ≤ ny) (_ : j2 = j1 + 1) (_ : ¬ ((xsi = i1) ∧ (ysi = j1))) (_ : i2 = (i1 + 1)) (_ : j2 = (j1 + 1)) (_ : ¬ ((i1 = nx) ∧ (j1 ≠ ny))) (_ : ¬ ((i1 ≠ nx) ∧ (j1 = ny))) (_ : (i1 = nx) ∧ (j1 = ny)) :
    (2 ≤ (nx + 1)) := Idx.lastButOne

theorem vinterp2d_vinterp2d_L65c17_ctx0 (i1 i2 j1 j2 nx ny xsi ysi : Int) (_ : 1 ≤ nx) (_ : 0 ≤ i1) (_ : i1 ≤ nx) (_ : i2 = i1 + 1) (_ : 1 ≤ ny) (_ : 0 ≤ j1) (_ : j1 ≤ ny) (_ : j2 = j1 + 1) (_ : ¬ ((xsi = i1) ∧ (ysi = j1))) (_ : i2 = (i1 + 1)) (_ : j2 = (j1 + 1)) (_ : ¬ ((i1 = nx) ∧ (j1 ≠ ny))) (_ : ¬ ((i1 ≠ nx) ∧ (j1 = ny))) (_ : (i1 = nx) ∧ (j1 = ny)) :
    (0 ≤ j1 ∧ j1 < (ny + 1)) := Idx.node

theorem vinterp2d_vinterp2d_L66c28_ctx0 (i1 i2 j1 j2 nx ny xsi ysi : Int) (_ : 1 ≤ nx) (_ : 0 ≤ i1) (_ : i1 ≤ nx) (_ : i2 = i1 + 1) (_ : 1 ≤ ny) (_ : 0 ≤ j1) (_ : j1 ≤ ny) (_ : j2 = j1 + 1) (_ : ¬ ((xsi = i1) ∧ (ysi = j1))) (_ : i2 = (i1 + 1)) (_ : j2 = (j1 + 1)) (_ : ¬ ((i1 = nx) ∧ (j1 ≠ ny))) (_ : ¬ ((i1 ≠ nx) ∧ (j1 = ny))) (_ : (i1 = nx) ∧ (j1 = ny)) :
    (2 ≤ (ny + 1)) := Idx.lastButOne

theorem vinterp2d_vinterp2d_L73c18_ctx0 (i1 i2 j1 j2 nx ny xsi ysi : Int) (_ : 1 ≤ nx) (_ : 0 ≤ i1) (_ : i1 ≤ nx) (_ : i2 = i1 + 1) (_ : 1 ≤ ny) (_ : 0 ≤ j1) (_ : j1 ≤ ny) (_ : j2 = j1 + 1) (_ : ¬ ((xsi = i1) ∧ (ysi = j1))) (_ : i2 = (i1 + 1)) (_ : j2 = (j1 + 1)) (_ : ¬ ((i1 = nx) ∧ (j1 ≠ ny))) (_ : ¬ ((i1 ≠ nx) ∧ (j1 = ny))) (_ : (i1 = nx) ∧ (j1 = ny)) :
    (0 ≤ i1 ∧ i1 < (nx + 1)) ∧ (0 ≤ j1 ∧ j1 < (ny + 1)) := ⟨Idx.node, Idx.node⟩

theorem vinterp2d_vinterp2d_L79c17_ctx0 (i1 i2 j1 j2 nx ny xsi ysi : Int) (_ : 1 ≤ nx) (_ : 0 ≤ i1) (_ : i1 ≤ nx) (_ : i2 = i1 + 1) (_ : 1 ≤ ny) (_ : 0 ≤ j1) (_ : j1 ≤ ny) (_ : j2 = j1 + 1) (_ : ¬ ((xsi = i1) ∧ (ysi = j1))) (_ : i2 = (i1 + 1)) (_ : j2 = (j1 + 1)) (_ : ¬ ((i1 = nx) ∧ (j1 ≠ ny))) (_ : ¬ ((i1 ≠ nx) ∧ (j1 = ny))) (_ : ¬ ((i1 = nx) ∧ (j1 = ny))) :
    (0 ≤ i1 ∧ i1 < (nx + 1)) := Idx.node

theorem vinterp2d_vinterp2d_L80c17_ctx0 (i1 i2 j1 j2 nx ny xsi ysi : Int) (_ : 1 ≤ nx) (_ : 0 ≤ i1) (_ : i1 ≤ nx) (_ : i2 = i1 + 1) (_ : 1 ≤ ny) (_ : 0 ≤ j1) (_ : j1 ≤ ny) (_ : j2 = j1 + 1) (_ : ¬ ((xsi = i1) ∧ (ysi = j1))) (_ : i2 = (i1 + 1)) (_ : j2 = (j1 + 1)) (_ : ¬ ((i1 = nx) ∧ (j1 ≠ ny))) (_ : ¬ ((i1 ≠ nx) ∧ (j1 = ny))) (_ : ¬ ((i1 = nx) ∧ (j1 = ny))) :
    (0 ≤ i2 ∧ i2 < (nx + 1)) := by lia

theorem vinterp2d_vinterp2d_L81c17_ctx0 (i1 i2 j1 j2 nx ny xsi ysi : Int) (_ : 1 ≤ nx) (_ : 0 ≤ i1) (_ : i1 ≤ nx) (_ : i2 = i1 + 1) (_ : 1 ≤ ny) (_ : 0 ≤ j1) (_ : j1 ≤ ny) (_ : j2 = j1 + 1) (_ : ¬ ((xsi = i1) ∧ (ysi = j1))) (_ : i2 = (i1 + 1)) (_ : j2 = (j1 + 1)) (_ : ¬ ((i1 = nx) ∧ (j1 ≠ ny))) (_ : ¬ ((i1 ≠ nx) ∧ (j1 = ny))) (_ : ¬ ((i1 = nx) ∧ (j1 = ny))) :
    (0 ≤ j1 ∧ j1 < (ny + 1)) := Idx.node

theorem vinterp2d_vinterp2d_L82c17_ctx0 (i1 i2 j1 j2 nx ny xsi ysi : Int) (_ : 1 ≤ nx) (_ : 0 ≤ i1) (_ : i1 ≤ nx) (_ : i2 = i1 + 1) (_ : 1 ≤ ny) (_ : 0 ≤ j1) (_ : j1 ≤ ny) (_ : j2 = j1 + 1) (_ : ¬ ((xsi = i1) ∧ (ysi = j1))) (_ : i2 = (i1 + 1)) (_ : j2 = (j1 + 1)) (_ : ¬ ((i1 = nx) ∧ (j1 ≠ ny))) (_ : ¬ ((i1 ≠ nx) ∧ (j1 = ny))) (_ : ¬ ((i1 = nx) ∧ (j1 = ny))) :
    (0 ≤ j2 ∧ j2 < (ny + 1)) := by lia

theorem vinterp2d_vinterp2d_L89c18_ctx0 (i1 i2 j1 j2 nx ny xsi ysi : Int) (_ : 1 ≤ nx) (_ : 0 ≤ i1) (_ : i1 ≤ nx) (_ : i2 = i1 + 1) (_ : 1 ≤ ny) (_ : 0 ≤ j1) (_ : j1 ≤ ny) (_ : j2 = j1 + 1) (_ : ¬ ((xsi = i1) ∧ (ysi = j1))) (_ : i2 = (i1 + 1)) (_ : j2 = (j1 + 1)) (_ : ¬ ((i1 = nx) ∧ (j1 ≠ ny))) (_ : ¬ ((i1 ≠ nx) ∧ (j1 = ny))) (_ : ¬ ((i1 = nx) ∧ (j1 = ny))) :
    (0 ≤ i1 ∧ i1 < (nx + 1)) ∧ (0 ≤ j1 ∧ j1 < (ny + 1)) := ⟨Idx.node, Idx.node⟩

theorem vinterp2d_vinterp2d_L90c18_ctx0 (i1 i2 j1 j2 nx ny xsi ysi : Int) (_ : 1 ≤ nx) (_ : 0 ≤ i1) (_ : i1 ≤ nx) (_ : i2 = i1 + 1) (_ : 1 ≤ ny) (_ : 0 ≤ j1) (_ : j1 ≤ ny) (_ : j2 = j1 + 1) (_ : ¬ ((xsi = i1) ∧ (ysi = j1))) (_ : i2 = (i1 + 1)) (_ : j2 = (j1 + 1)) (_ : ¬ ((i1 = nx) ∧ (j1 ≠ ny))) (_ : ¬ ((i1 ≠ nx) ∧ (j1 = ny))) (_ : ¬ ((i1 = nx) ∧ (j1 = ny))) :
    (0 ≤ i2 ∧ i2 < (nx + 1)) ∧ (0 ≤ j1 ∧ j1 < (ny + 1)) := ⟨by lia, Idx.node⟩

theorem vinterp2d_vinterp2d_L91c18_ctx0 (i1 i2 j1 j2 nx ny xsi ysi : Int) (_ : 1 ≤ nx) (_ : 0 ≤ i1) (_ : i1 ≤ nx) (_ : i2 = i1 + 1) (_ : 1 ≤ ny) (_ : 0 ≤ j1) (_ : j1 ≤ ny) (_ : j2 = j1 + 1) (_ : ¬ ((xsi = i1) ∧ (ysi = j1))) (_ : i2 = (i1 + 1)) (_ : j2 = (j1 + 1)) (_ : ¬ ((i1 = nx) ∧ (j1 ≠ ny))) (_ : ¬ ((i1 ≠ nx) ∧ (j1 = ny))) (_ : ¬ ((i1 = nx) ∧ (j1 = ny))) :
    (0 ≤ i1 ∧ i1 < (nx + 1)) ∧ (0 ≤ j2 ∧ j2 < (ny + 1)) := ⟨Idx.node, by lia⟩

theorem vinterp2d_vinterp2d_L92c18_ctx0 (i1 i2 j1 j2 nx ny xsi ysi : Int) (_ : 1 ≤ nx) (_ : 0 ≤ i1) (_ : i1 ≤ nx) (_ : i2 = i1 + 1) (_ : 1 ≤ ny) (_ : 0 ≤ j1) (_ : j1 ≤ ny) (_ : j2 = j1 + 1) (_ : ¬ ((xsi = i1) ∧ (ysi = j1))) (_ : i2 = (i1 + 1)) (_ : j2 = (j1 + 1)) (_ : ¬ ((i1 = nx) ∧ (j1 ≠ ny))) (_ : ¬ ((i1 ≠ nx) ∧ (j1 = ny))) (_ : ¬ ((i1 = nx) ∧ (j1 = ny))) :
    (0 ≤ i2 ∧ i2 < (nx + 1)) ∧ (0 ≤ j2 ∧ j2 < (ny + 1)) := by lia

theorem interp3d_interp3d_L10c12_ctx0 (i1 i2 j1 j2 k1 k2 nx ny nz : Int) (_ : 1 ≤ nx) (_ : 0 ≤ i1) (_ : i1 ≤ nx) (_ : i2 = i1 + 1) (_ : 1 ≤ ny) (_ : 0 ≤ j1) (_ : j1 ≤ ny) (_ : j2 = j1 + 1) (_ : 1 ≤ nz) (_ : 0 ≤ k1) (_ : k1 ≤ nz) (_ : k2 = k1 + 1) :
    (0 ≤ 0 ∧ 0 < (nx + 1)) := Idx.first

theorem interp3d_interp3d_L10c26_ctx0 (i1 i2 j1 j2 k1 k2 nx ny nz : Int) (_ : 1 ≤ nx) (_ : 0 ≤ i1) (_ : i1 ≤ nx) (_ : i2 = i1 + 1) (_ : 1 ≤ ny) (_ : 0 ≤ j1) (_ : j1 ≤ ny) (_ : j2 = j1 + 1) (_ : 1 ≤ nz) (_ : 0 ≤ k1) (_ : k1 ≤ nz) (_ : k2 = k1 + 1) :
    (1 ≤ (nx + 1)) := Idx.last

theorem interp3d_interp3d_L11c12_ctx0 (i1 i2 j1 j2 k1 k2 nx ny nz : Int) (_ : 1 ≤ nx) (_ : 0 ≤ i1) (_ : i1 ≤ nx) (_ : i2 = i1 + 1) (_ : 1 ≤ ny) (_ : 0 ≤ j1) (_ : j1 ≤ ny) (_ : j2 = j1 + 1) (_ : 1 ≤ nz) (_ : 0 ≤ k1) (_ : k1 ≤ nz) (_ : k2 = k1 + 1) :
    (0 ≤ 0 ∧ 0 < (ny + 1)) := Idx.first

theorem interp3d_interp3d_L11c26_ctx0 (i1 i2 j1 j2 k1 k2 nx ny nz : Int) (_ : 1 ≤ nx) (_ : 0 ≤ i1) (_ : i1 ≤ nx) (_ : i2 = i1 + 1) (_ : 1 ≤ ny) (_ : 0 ≤ j1) (_ : j1 ≤ ny) (_ : j2 = j1 + 1) (_ : 1 ≤ nz) (_ : 0 ≤ k1) (_ : k1 ≤ nz) (_ : k2 = k1 + 1) :
    (1 ≤ (ny + 1)) := Idx.last

theorem interp3d_interp3d_L12c12_ctx0 (i1 i2 j1 j2 k1 k2 nx ny nz : Int) (_ : 1 ≤ nx) (_ : 0 ≤ i1) (_ : i1 ≤ nx) (_ : i2 = i1 + 1) (_ : 1 ≤ ny) (_ : 0 ≤ j1) (_ : j1 ≤ ny) (_ : j2 = j1 + 1) (_ : 1 ≤ nz) (_ : 0 ≤ k1) (_ : k1 ≤ nz) (_ : k2 = k1 + 1) :
    (0 ≤ 0 ∧ 0 < (nz + 1)) := Idx.first

theorem interp3d_interp3d_L12c26_ctx0 (i1 i2 j1 j2 k1 k2 nx ny nz : Int) (_ : 1 ≤ nx) (_ : 0 ≤ i1) (_ : i1 ≤ nx) (_ : i2 = i1 + 1) (_ : 1 ≤ ny) (_ : 0 ≤ j1) (_ : j1 ≤ ny) (_ : j2 = j1 + 1) (_ : 1 ≤ nz) (_ : 0 ≤ k1) (_ : k1 ≤ nz) (_ : k2 = k1 + 1) :
    (1 ≤ (nz + 1)) := Idx.last

theorem interp3d_interp3d_L29c13_ctx0 (i1 i2 j1 j2 k1 k2 nx ny nz : Int) (_ : 1 ≤ nx) (_ : 0 ≤ i1) (_ : i1 ≤ nx) (_ : i2 = i1 + 1) (_ : 1 ≤ ny) (_ : 0 ≤ j1) (_ : j1 ≤ ny) (_ : j2 = j1 + 1) (_ : 1 ≤ nz) (_ : 0 ≤ k1) (_ : k1 ≤ nz) (_ : k2 = k1 + 1) (_ : i2 = (i1 + 1)) (_ : j2 = (j1 + 1)) (_ : k2 = (k1 + 1)) (_ : (i1 = nx) ∧ (j1 ≠ ny) ∧ (k1 ≠ nz)) :
    (0 ≤ i1 ∧ i1 < (nx + 1)) := Idx.node

theorem interp3d_interp3d_L30c24_ctx0 (i1 i2 j1 j2 k1 k2 nx ny nz : Int) (_ : 1 ≤ nx) (_ : 0 ≤ i1) (_ : i1 ≤ nx) (_ : i2 = i1 + 1) (_ : 1 ≤ ny) (_ : 0 ≤ j1) (_ : j1 ≤ ny) (_ : j2 = j1 + 1) (_ : 1 ≤ nz) (_ : 0 ≤ k1) (_ : k1 ≤ nz) (_ : k2 = k1 + 1) (_ : i2 = (i1 + 1)) (_ : j2 = (j1 + 1)) (_ : k2 = (k1 + 1)) (_ : (i1 = nx) ∧ (j1 ≠ ny) ∧ (k1 ≠ nz)) :
    (2 ≤ (nx + 1)) := Idx.lastButOne

theorem interp3d_interp3d_L31c13_ctx0 (i1 i2 j1 j2 k1 k2 nx ny nz : Int) (_ : 1 ≤ nx) (_ : 0 ≤ i1) (_ : i1 ≤ nx) (_ : i2 = i1 + 1) (_ : 1 ≤ ny) (_ : 0 ≤ j1) (_ : j1 ≤ ny) (_ : j2 = j1 + 1) (_ : 1 ≤ nz) (_ : 0 ≤ k1) (_ : k1 ≤ nz) (_ : k2 = k1 + 1) (_ : i2 = (i1 + 1)) (_ : j2 = (j1 + 1)) (_ : k2 = (k1 + 1)) (_ : (i1 = nx) ∧ (j1 ≠ ny) ∧ (k1 ≠ nz)) :
    (0 ≤ j1 ∧ j1 < (ny + 1)) := Idx.node

theorem interp3d_interp3d_L32c13_ctx0 (i1 i2 j1 j2 k1 k2 nx ny nz : Int) (_ : 1 ≤ nx) (_ : 0 ≤ i1) (_ : i1 ≤ nx) (_ : i2 = i1 + 1) (_ : 1 ≤ ny) (_ : 0 ≤ j1) (_ : j1 ≤ ny) (_ : j2 = j1 + 1) (_ : 1 ≤ nz) (_ : 0 ≤ k1) (_ : k1 ≤ nz) (_ : k2 = k1 + 1) (_ : i2 = (i1 + 1)) (_ : j2 = (j1 + 1)) (_ : k2 = (k1 + 1)) (_ : (i1 = nx) ∧ (j1 ≠ ny) ∧ (k1 ≠ nz)) :
    (0 ≤ j2 ∧ j2 < (ny + 1)) := by lia

theorem interp3d_interp3d_L33c13_ctx0 (i1 i2 j1 j2 k1 k2 nx ny nz : Int) (_ : 1 ≤ nx) (_ : 0 ≤ i1) (_ : i1 ≤ nx) (_ : i2 = i1 + 1) (_ : 1 ≤ ny) (_ : 0 ≤ j1) (_ : j1 ≤ ny) (_ : j2 = j1 + 1) (_ : 1 ≤ nz) (_ : 0 ≤ k1) (_ : k1 ≤ nz) (_ : k2 = k1 + 1) (_ : i2 = (i1 + 1)) (_ : j2 = (j1 + 1)) (_ : k2 = (k1 + 1)) (_ : (i1 = nx) ∧ (j1 ≠ ny) ∧ (k1 ≠ nz)) :
    (0 ≤ k1 ∧ k1 < (nz + 1)) := Idx.node

theorem interp3d_interp3d_L34c13_ctx0 (i1 i2 j1 j2 k1 k2 nx ny nz : Int) (_ : 1 ≤ nx) (_ : 0 ≤ i1) (_ : i1 ≤ nx) (_ : i2 = i1 + 1) (_ : 1 ≤ ny) (_ : 0 ≤ j1) (_ : j1 ≤ ny) (_ : j2 = j1 + 1) (_ : 1 ≤ nz) (_ : 0 ≤ k1) (_ : k1 ≤ nz) (_ : k2 = k1 + 1) (_ : i2 = (i1 + 1)) (_ : j2 = (j1 + 1)) (_ : k2 = (k1 + 1)) (_ : (i1 = nx) ∧ (j1 ≠ ny) ∧ (k1 ≠ nz)) :
    (0 ≤ k2 ∧ k2 < (nz + 1)) := by lia

theorem interp3d_interp3d_L36c15_ctx0 (i1 i2 j1 j2 k1 k2 nx ny nz : Int) (_ : 1 ≤ nx) (_ : 0 ≤ i1) (_ : i1 ≤ nx) (_ : i2 = i1 + 1) (_ : 1 ≤ ny) (_ : 0 ≤ j1) (_ : j1 ≤ ny) (_ : j2 = j1 + 1) (_ : 1 ≤ nz) (_ : 0 ≤ k1) (_ : k1 ≤ nz) (_ : k2 = k1 + 1) (_ : i2 = (i1 + 1)) (_ : j2 = (j1 + 1)) (_ : k2 = (k1 + 1)) (_ : (i1 = nx) ∧ (j1 ≠ ny) ∧ (k1 ≠ nz)) :
    (0 ≤ i1 ∧ i1 < (nx + 1)) ∧ (0 ≤ j1 ∧ j1 < (ny + 1)) ∧ (0 ≤ k1 ∧ k1 < (nz + 1)) := ⟨Idx.node, Idx.node, Idx.node⟩

theorem interp3d_interp3d_L38c15_ctx0 (i1 i2 j1 j2 k1 k2 nx ny nz : Int) (_ : 1 ≤ nx) (_ : 0 ≤ i1) (_ : i1 ≤ nx) (_ : i2 = i1 + 1) (_ : 1 ≤ ny) (_ : 0 ≤ j1) (_ : j1 ≤ ny) (_ : j2 = j1 + 1) (_ : 1 ≤ nz) (_ : 0 ≤ k1) (_ : k1 ≤ nz) (_ : k2 = k1 + 1) (_ : i2 = (i1 + 1)) (_ : j2 = (j1 + 1)) (_ : k2 = (k1 + 1)) (_ : (i1 = nx) ∧ (j1 ≠ ny) ∧ (k1 ≠ nz)) :
    (0 ≤ i1 ∧ i1 < (nx + 1)) ∧ (0 ≤ j2 ∧ j2 < (ny + 1)) ∧ (0 ≤ k1 ∧ k1 < (nz + 1)) := ⟨Idx.node, by lia, Idx.node⟩

theorem interp3d_interp3d_L40c15_ctx0 (i1 i2 j1 j2 k1 k2 nx ny nz : Int) (_ : 1 ≤ nx) (_ : 0 ≤ i1) (_ : i1 ≤ nx) (_ : i2 = i1 + 1) (_ : 1 ≤ ny) (_ : 0 ≤ j1) (_ : j1 ≤ ny) (_ : j2 = j1 + 1) (_ : 1 ≤ nz) (_ : 0 ≤ k1) (_ : k1 ≤ nz) (_ : k2 = k1 + 1) (_ : i2 = (i1 + 1)) (_ : j2 = (j1 + 1)) (_ : k2 = (k1 + 1)) (_ : (i1 = nx) ∧ (j1 ≠ ny) ∧ (k1 ≠ nz)) :
    (0 ≤ i1 ∧ i1 < (nx + 1)) ∧ (0 ≤ j1 ∧ j1 < (ny + 1)) ∧ (0 ≤ k2 ∧ k2 < (nz + 1)) := ⟨Idx.node, Idx.node, by lia⟩

theorem interp3d_interp3d_L42c15_ctx0 (i1 i2 j1 j2 k1 k2 nx ny nz : Int) (_ : 1 ≤ nx) (_ : 0 ≤ i1) (_ : i1 ≤ nx) (_ : i2 = i1 + 1) (_ : 1 ≤ ny) (_ : 0 ≤ j1) (_ : j1 ≤ ny) (_ : j2 = j1 + 1) (_ : 1 ≤ nz) (_ : 0 ≤ k1) (_ : k1 ≤ nz) (_ : k2 = k1 + 1) (_ : i2 = (i1 + 1)) (_ : j2 = (j1 + 1)) (_ : k2 = (k1 + 1)) (_ : (i1 = nx) ∧ (j1 ≠ ny) ∧ (k1 ≠ nz)) :
    (0 ≤ i1 ∧ i1 < (nx + 1)) ∧ (0 ≤ j2 ∧ j2 < (ny + 1)) ∧ (0 ≤ k2 ∧ k2 < (nz + 1)) := ⟨Idx.node, by lia, by lia⟩

theorem interp3d_interp3d_L46c13_ctx0 (i1 i2 j1 j2 k1 k2 nx ny nz : Int) (_ : 1 ≤ nx) (_ : 0 ≤ i1) (_ : i1 ≤ nx) (_ : i2 = i1 + 1) (_ : 1 ≤ ny) (_ : 0 ≤ j1) (_ : j1 ≤ ny) (_ : j2 = j1 + 1) (_ : 1 ≤ nz) (_ : 0 ≤ k1) (_ : k1 ≤ nz) (_ : k2 = k1 + 1) (_ : i2 = (i1 + 1)) (_ : j2 = (j1 + 1)) (_ : k2 = (k1 + 1)) (_ : ¬ ((i1 = nx) ∧ (j1 ≠ ny) ∧ (k1 ≠ nz))) (_ : (i1 ≠ nx) ∧ (j1 = ny) ∧ (k1 ≠ nz)) :
    (0 ≤ i1 ∧ i1 < (nx + 1)) := Idx.node

theorem interp3d_interp3d_L47c13_ctx0 (i1 i2 j1 j2 k1 k2 nx ny nz : Int) (_ : 1 ≤ nx) (_ : 0 ≤ i1) (_ : i1 ≤ nx) (_ : i2 = i1 + 1) (_ : 1 ≤ ny) (_ : 0 ≤ j1) (_ : j1 ≤ ny) (_ : j2 = j1 + 1) (_ : 1 ≤ nz) (_ : 0 ≤ k1) (_ : k1 ≤ nz) (_ : k2 = k1 + 1) (_ : i2 = (i1 + 1)) (_ : j2 = (j1 + 1)) (_ : k2 = (k1 + 1)) (_ : ¬ ((i1 = nx) ∧ (j1 ≠ ny) ∧ (k1 ≠ nz))) (_ : (i1 ≠ nx) ∧ (j1 = ny) ∧ (k1 ≠ nz)) :
    (0 ≤ i2 ∧ i2 < (nx + 1)) := by lia

theorem interp3d_interp3d_L48c13_ctx0 (i1 i2 j1 j2 k1 k2 nx ny nz : Int) (_ : 1 ≤ nx) (_ : 0 ≤ i1) (_ : i1 ≤ nx) (_ : i2 = i1 + 1) (_ : 1 ≤ ny) (_ : 0 ≤ j1) (_ : j1 ≤ ny) (_ : j2 = j1 + 1) (_ : 1 ≤ nz) (_ : 0 ≤ k1) (_ : k1 ≤ nz) (_ : k2 = k1 + 1) (_ : i2 = (i1 + 1)) (_ : j2 = (j1 + 1)) (_ : k2 = (k1 + 1)) (_ : ¬ ((i1 = nx) ∧ (j1 ≠ ny) ∧ (k1 ≠ nz))) (_ : (i1 ≠ nx) ∧ (j1 = ny) ∧ (k1 ≠ nz)) :
    (0 ≤ j1 ∧ j1 < (ny + 1)) := Idx.node

theorem interp3d_interp3d_L49c24_ctx0 (i1 i2 j1 j2 k1 k2 nx ny nz : Int) (_ : 1 ≤ nx) (_ : 0 ≤ i1) (_ : i1 ≤ nx) (_ : i2 = i1 + 1) (_ : 1 ≤ ny) (_ : 0 ≤ j1) (_ : j1 ≤ ny) (_ : j2 = j1 + 1) (_ : 1 ≤ nz) (_ : 0 ≤ k1) (_ : k1 ≤ nz) (_ : k2 = k1 + 1) (_ : i2 = (i1 + 1)) (_ : j2 = (j1 + 1)) (_ : k2 = (k1 + 1)) (_ : ¬ ((i1 = nx) ∧ (j1 ≠ ny) ∧ (k1 ≠ nz))) (_ : (i1 ≠ nx) ∧ (j1 = ny) ∧ (k1 ≠ nz)) :
    (2 ≤ (ny + 1)) := Idx.lastButOne

theorem interp3d_interp3d_L50c13_ctx0 (i1 i2 j1 j2 k1 k2 nx ny nz : Int) (_ : 1 ≤ nx) (_ : 0 ≤ i1) (_ : i1 ≤ nx) (_ : i2 = i1 + 1) (_ : 1 ≤ ny) (_ : 0 ≤ j1) (_ : j1 ≤ ny) (_ : j2 = j1 + 1) (_ : 1 ≤ nz) (_ : 0 ≤ k1) (_ : k1 ≤ nz) (_ : k2 = k1 + 1) (_ : i2 = (i1 + 1)) (_ : j2 = (j1 + 1)) (_ : k2 = (k1 + 1)) (_ : ¬ ((i1 = nx) ∧ (j1 ≠ ny) ∧ (k1 ≠ nz))) (_ : (i1 ≠ nx) ∧ (j1 = ny) ∧ (k1 ≠ nz)) :
    (0 ≤ k1 ∧ k1 < (nz + 1)) := Idx.node

theorem interp3d_interp3d_L51c13_ctx0 (i1 i2 j1 j2 k1 k2 nx ny nz : Int) (_ : 1 ≤ nx) (_ : 0 ≤ i1) (_ : i1 ≤ nx) (_ : i2 = i1 + 1) (_ : 1 ≤ ny) (_ : 0 ≤ j1) (_ : j1 ≤ ny) (_ : j2 = j1 + 1) (_ : 1 ≤ nz) (_ : 0 ≤ k1) (_ : k1 ≤ nz) (_ : k2 = k1 + 1) (_ : i2 = (i1 + 1)) (_ : j2 = (j1 + 1)) (_ : k2 = (k1 + 1)) (_ : ¬ ((i1 = nx) ∧ (j1 ≠ ny) ∧ (k1 ≠ nz))) (_ : (i1 ≠ nx) ∧ (j1 = ny) ∧ (k1 ≠ nz)) :
    (0 ≤ k2 ∧ k2 < (nz + 1)) := by lia

theorem interp3d_interp3d_L53c15_ctx0 (i1 i2 j1 j2 k1 k2 nx ny nz : Int) (_ : 1 ≤ nx) (_ : 0 ≤ i1) (_ : i1 ≤ nx) (_ : i2 = i1 + 1) (_ : 1 ≤ ny) (_ : 0 ≤ j1) (_ : j1 ≤ ny) (_ : j2 = j1 + 1) (_ : 1 ≤ nz) (_ : 0 ≤ k1) (_ : k1 ≤ nz) (_ : k2 = k1 + 1) (_ : i2 = (i1 + 1)) (_ : j2 = (j1 + 1)) (_ : k2 = (k1 + 1)) (_ : ¬ ((i1 = nx) ∧ (j1 ≠ ny) ∧ (k1 ≠ nz))) (_ : (i1 ≠ nx) ∧ (j1 = ny) ∧ (k1 ≠ nz)) :
    (0 ≤ i1 ∧ i1 < (nx + 1)) ∧ (0 ≤ j1 ∧ j1 < (ny + 1)) ∧ (0 ≤ k1 ∧ k1 < (nz + 1)) := ⟨Idx.node, Idx.node, Idx.node⟩

theorem interp3d_interp3d_L54c15_ctx0 (i1 i2 j1 j2 k1 k2 nx ny nz : Int) (_ : 1 ≤ nx) (_ : 0 ≤ i1) (_ : i1 ≤ nx) (_ : i2 = i1 + 1) (_ : 1 ≤ ny) (_ : 0 ≤ j1) (_ : j1 ≤ ny) (_ : j2 = j1 + 1) (_ : 1 ≤ nz) (_ : 0 ≤ k1) (_ : k1 ≤ nz) (_ : k2 = k1 + 1) (_ : i2 = (i1 + 1)) (_ : j2 = (j1 + 1)) (_ : k2 = (k1 + 1)) (_ : ¬ ((i1 = nx) ∧ (j1 ≠ ny) ∧ (k1 ≠ nz))) (_ : (i1 ≠ nx) ∧ (j1 = ny) ∧ (k1 ≠ nz)) :
    (0 ≤ i2 ∧ i2 < (nx + 1)) ∧ (0 ≤ j1 ∧ j1 < (ny + 1)) ∧ (0 ≤ k1 ∧ k1 < (nz + 1)) := ⟨by lia, Idx.node, Idx.node⟩

theorem interp3d_interp3d_L57c15_ctx0 (i1 i2 j1 j2 k1 k2 nx ny nz : Int) (_ : 1 ≤ nx) (_ : 0 ≤ i1) (_ : i1 ≤ nx) (_ : i2 = i1 + 1) (_ : 1 ≤ ny) (_ : 0 ≤ j1) (_ : j1 ≤ ny) (_ : j2 = j1 + 1) (_ : 1 ≤ nz) (_ : 0 ≤ k1) (_ : k1 ≤ nz) (_ : k2 = k1 + 1) (_ : i2 = (i1 + 1)) (_ : j2 = (j1 + 1)) (_ : k2 = (k1 + 1)) (_ : ¬ ((i1 = nx) ∧ (j1 ≠ ny) ∧ (k1 ≠ nz))) (_ : (i1 ≠ nx) ∧ (j1 = ny) ∧ (k1 ≠ nz)) :
    (0 ≤ i1 ∧ i1 < (nx + 1)) ∧ (0 ≤ j1 ∧ j1 < (ny + 1)) ∧ (0 ≤ k2 ∧ k2 < (nz + 1)) := ⟨Idx.node, Idx.node, by lia⟩

theorem interp3d_interp3d_L58c15_ctx0 (i1 i2 j1 j2 k1 k2 nx ny nz : Int) (_ : 1 ≤ nx) (_ : 0 ≤ i1) (_ : i1 ≤ nx) (_ : i2 = i1 + 1) (_ : 1 ≤ ny) (_ : 0 ≤ j1) (_ : j1 ≤ ny) (_ : j2 = j1 + 1) (_ : 1 ≤ nz) (_ : 0 ≤ k1) (_ : k1 ≤ nz) (_ : k2 = k1 + 1) (_ : i2 = (i1 + 1)) (_ : j2 = (j1 + 1)) (_ : k2 = (k1 + 1)) (_ : ¬ ((i1 = nx) ∧ (j1 ≠ ny) ∧ (k1 ≠ nz))) (_ : (i1 ≠ nx) ∧ (j1 = ny) ∧ (k1 ≠ nz)) :
    (0 ≤ i2 ∧ i2 < (nx + 1)) ∧ (0 ≤ j1 ∧ j1 < (ny + 1)) ∧ (0 ≤ k2 ∧ k2 < (nz + 1)) := ⟨by lia, Idx.node, by lia⟩

theorem interp3d_interp3d_L63c13_ctx0 (i1 i2 j1 j2 k1 k2 nx ny nz : Int) (_ : 1 ≤ nx) (_ : 0 ≤ i1) (_ : i1 ≤ nx) (_ : i2 = i1 + 1) (_ : 1 ≤ ny) (_ : 0 ≤ j1) (_ : j1 ≤ ny) (_ : j2 = j1 + 1) (_ : 1 ≤ nz) (_ : 0 ≤ k1) (_ : k1 ≤ nz) (_ : k2 = k1 + 1) (_ : i2 = (i1 + 1)) (_ : j2 = (j1 + 1)) (_ : k2 = (k1 + 1)) (_ : ¬ ((i1 = nx) ∧ (j1 ≠ ny) ∧ (k1 ≠ nz))) (_ : ¬ ((i1 ≠ nx) ∧ (j1 = ny) ∧ (k1 ≠ nz))) (_ : (i1 ≠ nx) ∧ (j1 ≠ ny) ∧ (k1 = nz)) :
    (0 ≤ i1 ∧ i1 < (nx + 1)) := Idx.node

theorem interp3d_interp3d_L64c13_ctx0 (i1 i2 j1 j2 k1 k2 nx ny nz : Int) (_ : 1 ≤ nx) (_ : 0 ≤ i1) (_ : i1 ≤ nx) (_ : i2 = i1 + 1) (_ : 1 ≤ ny) (_ : 0 ≤ j1) (_ : j1 ≤ ny) (_ : j2 = j1 + 1) (_ : 1 ≤ nz) (_ : 0 ≤ k1) (_ : k1 ≤ nz) (_ : k2 = k1 + 1) (_ : i2 = (i1 + 1)) (_ : j2 = (j1 + 1)) (_ : k2 = (k1 + 1)) (_ : ¬ ((i1 = nx) ∧ (j1 ≠ ny) ∧ (k1 ≠ nz))) (_ : ¬ ((i1 ≠ nx) ∧ (j1 = ny) ∧ (k1 ≠ nz))) (_ : (i1 ≠ nx) ∧ (j1 ≠ ny) ∧ (k1 = nz)) :
    (0 ≤ i2 ∧ i2 < (nx + 1)) := by lia

theorem interp3d_interp3d_L65c13_ctx0 (i1 i2 j1 j2 k1 k2 nx ny nz : Int) (_ : 1 ≤ nx) (_ : 0 ≤ i1) (_ : i1 ≤ nx) (_ : i2 = i1 + 1) (_ : 1 ≤ ny) (_ : 0 ≤ j1) (_ : j1 ≤ ny) (_ : j2 = j1 + 1) (_ : 1 ≤ nz) (_ : 0 ≤ k1) (_ : k1 ≤ nz) (_ : k2 = k1 + 1) (_ : i2 = (i1 + 1)) (_ : j2 = (j1 + 1)) (_ : k2 = (k1 + 1)) (_ : ¬ ((i1 = nx) ∧ (j1 ≠ ny) ∧ (k1 ≠ nz))) (_ : ¬ ((i1 ≠ nx) ∧ (j1 = ny) ∧ (k1 ≠ nz))) (_ : (i1 ≠ nx) ∧ (j1 ≠ ny) ∧ (k1 = nz)) :
    (0 ≤ j1 ∧ j1 < (ny + 1)) := Idx.node

theorem interp3d_interp3d_L66c13_ctx0 (i1 i2 j1 j2 k1 k2 nx ny nz : Int) (_ : 1 ≤ nx) (_ : 0 ≤ i1) (_ : i1 ≤ nx) (_ : i2 = i1 + 1) (_ : 1 ≤ ny) (_ : 0 ≤ j1) (_ : j1 ≤ ny) (_ : j2 = j1 + 1) (_ : 1 ≤ nz) (_ : 0 ≤ k1) (_ : k1 ≤ nz) (_ : k2 = k1 + 1) (_ : i2 = (i1 + 1)) (_ : j2 = (j1 + 1)) (_ : k2 = (k1 + 1)) (_ : ¬ ((i1 = nx) ∧ (j1 ≠ ny) ∧ (k1 ≠ nz))) (_ : ¬ ((i1 ≠ nx) ∧ (j1 = ny) ∧ (k1 ≠ nz))) (_ : (i1 ≠ nx) ∧ (j1 ≠ ny) ∧ (k1 = nz)) :
    (0 ≤ j2 ∧ j2 < (ny + 1)) := by lia

theorem interp3d_interp3d_L67c13_ctx0 (i1 i2 j1 j2 k1 k2 nx ny nz : Int) (_ : 1 ≤ nx) (_ : 0 ≤ i1) (_ : i1 ≤ nx) (_ : i2 = i1 + 1) (_ : 1 ≤ ny) (_ : 0 ≤ j1) (_ : j1 ≤ ny) (_ : j2 = j1 + 1) (_ : 1 ≤ nz) (_ : 0 ≤ k1) (_ : k1 ≤ nz) (_ : k2 = k1 + 1) (_ : i2 = (i1 + 1)) (_ : j2 = (j1 + 1)) (_ : k2 = (k1 + 1)) (_ : ¬ ((i1 = nx) ∧ (j1 ≠ ny) ∧ (k1 ≠ nz))) (_ : ¬ ((i1 ≠ nx) ∧ (j1 = ny) ∧ (k1 ≠ nz))) (_ : (i1 ≠ nx) ∧ (j1 ≠ ny) ∧ (k1 = nz)) :
    (0 ≤ k1 ∧ k1 < (nz + 1)) := Idx.node

theorem interp3d_interp3d_L68c24_ctx0 (i1 i2 j1 j2 k1 k2 nx ny nz : Int) (_ : 1 ≤ nx) (_ : 0 ≤ i1) (_ : i1 ≤ nx) (_ : i2 = i1 + 1) (_ : 1 ≤ ny) (_ : 0 ≤ j1) (_ : j1 ≤ ny) (_ : j2 = j1 + 1) (_ : 1 ≤ nz) (_ : 0 ≤ k1) (_ : k1 ≤ nz) (_ : k2 = k1 + 1) (_ : i2 = (i1 + 1)) (_ : j2 = (j1 + 1)) (_ : k2 = (k1 + 1)) (_ : ¬ ((i1 = nx) ∧ (j1 ≠ ny) ∧ (k1 ≠ nz))) (_ : ¬ ((i1 ≠ nx) ∧ (j1 = ny) ∧ (k1 ≠ nz))) (_ : (i1 ≠ nx) ∧ (j1 ≠ ny) ∧ (k1 = nz)) :
    (2 ≤ (nz + 1)) := Idx.lastButOne

theorem interp3d_interp3d_L70c15_ctx0 (i1 i2 j1 j2 k1 k2 nx ny nz : Int) (_ : 1 ≤ nx) (_ : 0 ≤ i1) (_ : i1 ≤ nx) (_ : i2 = i1 + 1) (_ : 1 ≤ ny) (_ : 0 ≤ j1) (_ : j1 ≤ ny) (_ : j2 = j1 + 1) (_ : 1 ≤ nz) (_ : 0 ≤ k1) (_ : k1 ≤ nz) (_ : k2 = k1 + 1) (_ : i2 = (i1 + 1)) (_ : j2 = (j1 + 1)) (_ : k2 = (k1 + 1)) (_ : ¬ ((i1 = nx) ∧ (j1 ≠ ny) ∧ (k1 ≠ nz))) (_ : ¬ ((i1 ≠ nx) ∧ (j1 = ny) ∧ (k1 ≠ nz))) (_ : (i1 ≠ nx) ∧ (j1 ≠ ny) ∧ (k1 = nz)) :
    (0 ≤ i1 ∧ i1 < (nx + 1)) ∧ (0 ≤ j1 ∧ j1 < (ny + 1)) ∧ (0 ≤ k1 ∧ k1 < (nz + 1)) := ⟨Idx.node, Idx.node, Idx.node⟩

theorem interp3d_interp3d_L71c15_ctx0 (i1 i2 j1 j2 k1 k2 nx ny nz : Int) (_ : 1 ≤ nx) (_ : 0 ≤ i1) (_ : i1 ≤ nx) (_ : i2 = i1 + 1) (_ : 1 ≤ ny) (_ : 0 ≤ j1) (_ : j1 ≤ ny) (_ : j2 = j1 + 1) (_ : 1 ≤ nz) (_ : 0 ≤ k1) (_ : k1 ≤ nz) (_ : k2 = k1 + 1) (_ : i2 = (i1 + 1)) (_ : j2 = (j1 + 1)) (_ : k2 = (k1 + 1)) (_ : ¬ ((i1 = nx) ∧ (j1 ≠ ny) ∧ (k1 ≠ nz))) (_ : ¬ ((i1 ≠ nx) ∧ (j1 = ny) ∧ (k1 ≠ nz))) (_ : (i1 ≠ nx) ∧ (j1 ≠ ny) ∧ (k1 = nz)) :
    (0 ≤ i2 ∧ i2 < (nx + 1)) ∧ (0 ≤ j1 ∧ j1 < (ny + 1)) ∧ (0 ≤ k1 ∧ k1 < (nz + 1)) := ⟨by lia, Idx.node, Idx.node⟩

theorem interp3d_interp3d_L72c15_ctx0 (i1 i2 j1 j2 k1 k2 nx ny nz : Int) (_ : 1 ≤ nx) (_ : 0 ≤ i1) (_ : i1 ≤ nx) (_ : i2 = i1 + 1) (_ : 1 ≤ ny) (_ : 0 ≤ j1) (_ : j1 ≤ ny) (_ : j2 = j1 + 1) (_ : 1 ≤ nz) (_ : 0 ≤ k1) (_ : k1 ≤ nz) (_ : k2 = k1 + 1) (_ : i2 = (i1 + 1)) (_ : j2 = (j1 + 1)) (_ : k2 = (k1 + 1)) (_ : ¬ ((i1 = nx) ∧ (j1 ≠ ny) ∧ (k1 ≠ nz))) (_ : ¬ ((i1 ≠ nx) ∧ (j1 = ny) ∧ (k1 ≠ nz))) (_ : (i1 ≠ nx) ∧ (j1 ≠ ny) ∧ (k1 = nz)) :
    (0 ≤ i1 ∧ i1 < (nx + 1)) ∧ (0 ≤ j2 ∧ j2 < (ny + 1)) ∧ (0 ≤ k1 ∧ k1 < (nz + 1)) := ⟨Idx.node, by lia, Idx.node⟩

theorem interp3d_interp3d_L73c15_ctx0 (i1 i2 j1 j2 k1 k2 nx ny nz : Int) (_ : 1 ≤ nx) (_ : 0 ≤ i1) (_ : i1 ≤ nx) (_ : i2 = i1 + 1) (_ : 1 ≤ ny) (_ : 0 ≤ j1) (_ : j1 ≤ ny) (_ : j2 = j1 + 1) (_ : 1 ≤ nz) (_ : 0 ≤ k1) (_ : k1 ≤ nz) (_ : k2 = k1 + 1) (_ : i2 = (i1 + 1)) (_ : j2 = (j1 + 1)) (_ : k2 = (k1 + 1)) (_ : ¬ ((i1 = nx) ∧ (j1 ≠ ny) ∧ (k1 ≠ nz))) (_ : ¬ ((i1 ≠ nx) ∧ (j1 = ny) ∧ (k1 ≠ nz))) (_ : (i1 ≠ nx) ∧ (j1 ≠ ny) ∧ (k1 = nz)) :
    (0 ≤ i2 ∧ i2 < (nx + 1)) ∧ (0 ≤ j2 ∧ j2 < (ny + 1)) ∧ (0 ≤ k1 ∧ k1 < (nz + 1)) := ⟨by lia, by lia, Idx.node⟩

theorem interp3d_interp3d_L80c13_ctx0 (i1 i2 j1 j2 k1 k2 nx ny nz : Int) (_ : 1 ≤ nx) (_ : 0 ≤ i1) (_ : i1 ≤ nx) (_ : i2 = i1 + 1) (_ : 1 ≤ ny) (_ : 0 ≤ j1) (_ : j1 ≤ ny) (_ : j2 = j1 + 1) (_ : 1 ≤ nz) (_ : 0 ≤ k1) (_ : k1 ≤ nz) (_ : k2 = k1 + 1) (_ : i2 = (i1 + 1)) (_ : j2 = (j1 + 1)) (_ : k2 = (k1 + 1)) (_ : ¬ ((i1 = nx) ∧ (j1 ≠ ny) ∧ (k1 ≠ nz))) (_ : ¬ ((i1 ≠ nx) ∧ (j1 = ny) ∧ (k1 ≠ nz))) (_ : ¬ ((i1 ≠ nx) ∧ (j1 ≠ ny) ∧ (k1 = nz))) (_ : (i1 = nx) ∧ (j1 = ny) ∧ (k1 ≠ nz)) :
    (0 ≤ i1 ∧ i1 < (nx + 1)) := Idx.node

theorem interp3d_interp3d_L81c24_ctx0 (i1 i2 j1 j2 k1 k2 nx ny nz : Int) (_ : 1 ≤ nx) (_ : 0 ≤ i1) (_ : i1 ≤ nx) (_ : i2 = i1 + 1) (_ : 1 ≤ ny) (_ : 0 ≤ j1) (_ : j1 ≤ ny) (_ : j2 = j1 + 1) (_ : 1 ≤ nz) (_ : 0 ≤ k1) (_ : k1 ≤ nz) (_ : k2 = k1 + 1) (_ : i2 = (i1 + 1)) (_ : j2 = (j1 + 1)) (_ : k2 = (k1 + 1)) (_ : ¬ ((i1 = nx) ∧ (j1 ≠ ny) ∧ (k1 ≠ nz))) (_ : ¬ ((i1 ≠ nx) ∧ (j1 = ny) ∧ (k1 ≠ nz))) (_ : ¬ ((i1 ≠ nx) ∧ (j1 ≠ ny) ∧ (k1 = nz))) (_ : (i1 = nx) ∧ (j1 = ny) ∧ (k1 ≠ nz)) :
    (2 ≤ (nx + 1)) := Idx.lastButOne

theorem interp3d_interp3d_L82c13_ctx0 (i1 i2 j1 j2 k1 k2 nx ny nz : Int) (_ : 1 ≤ nx) (_ : 0 ≤ i1) (_ : i1 ≤ nx) (_ : i2 = i1 + 1) (_ : 1 ≤ ny) (_ : 0 ≤ j1) (_ : j1 ≤ ny) (_ : j2 = j1 + 1) (_ : 1 ≤ nz) (_ : 0 ≤ k1) (_ : k1 ≤ nz) (_ : k2 = k1 + 1) (_ : i2 = (i1 + 1)) (_ : j2 = (j1 + 1)) (_ : k2 = (k1 + 1)) (_ : ¬ ((i1 = nx) ∧ (j1 ≠ ny) ∧ (k1 ≠ nz))) (_ : ¬ ((i1 ≠ nx) ∧ (j1 = ny) ∧ (k1 ≠ nz))) (_ : ¬ ((i1 ≠ nx) ∧ (j1 ≠ ny) ∧ (k1 = nz))) (_ : (i1 = nx) ∧ (j1 = ny) ∧ (k1 ≠ nz)) :
    (0 ≤ j1 ∧ j1 < (ny + 1)) := Idx.node

theorem interp3d_interp3d_L83c24_ctx0 (i1 i2 j1 j2 k1 k2 nx ny nz : Int) (_ : 1 ≤ nx) (_ : 0 ≤ i1) (_ : i1 ≤ nx) (_ : i2 = i1 + 1) (_ : 1 ≤ ny) (_ : 0 ≤ j1) (_ : j1 ≤ ny) (_ : j2 = j1 + 1) (_ : 1 ≤ nz) (_ : 0 ≤ k1) (_ : k1 ≤ nz) (_ : k2 = k1 + 1) (_ : i2 = (i1 + 1)) (_ : j2 = (j1 + 1)) (_ : k2 = (k1 + 1)) (_ : ¬ ((i1 = nx) ∧ (j1 ≠ ny) ∧ (k1 ≠ nz))) (_ : ¬ ((i1 ≠ nx) ∧ (j1 = ny) ∧ (k1 ≠ nz))) (_ : ¬ ((i1 ≠ nx) ∧ (j1 ≠ ny) ∧ (k1 = nz))) (_ : (i1 = nx) ∧ (j1 = ny) ∧ (k1 ≠ nz)) :
    (2 ≤ (ny + 1)) := Idx.lastButOne

theorem interp3d_interp3d_L84c13_ctx0 (i1 i2 j1 j2 k1 k2 nx ny nz : Int) (_ : 1 ≤ nx) (_ : 0 ≤ i1) (_ : i1 ≤ nx) (_ : i2 = i1 + 1) (_ : 1 ≤ ny) (_ : 0 ≤ j1) (_ : j1 ≤ ny) (_ : j2 = j1 + 1) (_ : 1 ≤ nz) (_ : 0 ≤ k1) (_ : k1 ≤ nz) (_ : k2 = k1 + 1) (_ : i2 = (i1 + 1)) (_ : j2 = (j1 + 1)) (_ : k2 = (k1 + 1)) (_ : ¬ ((i1 = nx) ∧ (j1 ≠ ny) ∧ (k1 ≠ nz))) (_ : ¬ ((i1 ≠ nx) ∧ (j1 = ny) ∧ (k1 ≠ nz))) (_ : ¬ ((i1 ≠ nx) ∧ (j1 ≠ ny) ∧ (k1 = nz))) (_ : (i1 = nx) ∧ (j1 = ny) ∧ (k1 ≠ nz)) :
    (0 ≤ k1 ∧ k1 < (nz + 1)) := Idx.node

theorem interp3d_interp3d_L85c13_ctx0 (i1 i2 j1 j2 k1 k2 nx ny nz : Int) (_ : 1 ≤ nx) (_ : 0 ≤ i1) (_ : i1 ≤ nx) (_ : i2 = i1 + 1) (_ : 1 ≤ ny) (_ : 0 ≤ j1) (_ : j1 ≤ ny) (_ : j2 = j1 + 1) (_ : 1 ≤ nz) (_ : 0 ≤ k1) (_ : k1 ≤ nz) (_ : k2 = k1 + 1) (_ : i2 = (i1 + 1)) (_ : j2 = (j1 + 1)) (_ : k2 = (k1 + 1)) (_ : ¬ ((i1 = nx) ∧ (j1 ≠ ny) ∧ (k1 ≠ nz))) (_ : ¬ ((i1 ≠ nx) ∧ (j1 = ny) ∧ (k1 ≠ nz))) (_ : ¬ ((i1 ≠ nx) ∧ (j1 ≠ ny) ∧ (k1 = nz))) (_ : (i1 = nx) ∧ (j1 = ny) ∧ (k1 ≠ nz)) :
    (0 ≤ k2 ∧ k2 < (nz + 1)) := by lia

theorem interp3d_interp3d_L87c15_ctx0 (i1 i2 j1 j2 k1 k2 nx ny nz : Int) (_ : 1 ≤ nx) (_ : 0 ≤ i1) (_ : i1 ≤ nx) (_ : i2 = i1 + 1) (_ : 1 ≤ ny) (_ : 0 ≤ j1) (_ : j1 ≤ ny) (_ : j2 = j1 + 1) (_ : 1 ≤ nz) (_ : 0 ≤ k1) (_ : k1 ≤ nz) (_ : k2 = k1 + 1) (_ : i2 = (i1 + 1)) (_ : j2 = (j1 + 1)) (_ : k2 = (k1 + 1)) (_ : ¬ ((i1 = nx) ∧ (j1 ≠ ny) ∧ (k1 ≠ nz))) (_ : ¬ ((i1 ≠ nx) ∧ (j1 = ny) ∧ (k1 ≠ nz))) (_ : ¬ ((i1 ≠ nx) ∧ (j1 ≠ ny) ∧ (k1 = nz))) (_ : (i1 = nx) ∧ (j1 = ny) ∧ (k1 ≠ nz)) :
    (0 ≤ i1 ∧ i1 < (nx + 1)) ∧ (0 ≤ j1 ∧ j1 < (ny + 1)) ∧ (0 ≤ k1 ∧ k1 < (nz + 1)) := ⟨Idx.node, Idx.node, Idx.node⟩

theorem interp3d_interp3d_L91c15_ctx0 (i1 i2 j1 j2 k1 k2 nx ny nz : Int) (_ : 1 ≤ nx) (_ : 0 ≤ i1) (_ : i1 ≤ nx) (_ : i2 = i1 + 1) (_ : 1 ≤ ny) (_ : 0 ≤ j1) (_ : j1 ≤ ny) (_ : j2 = j1 + 1) (_ : 1 ≤ nz) (_ : 0 ≤ k1) (_ : k1 ≤ nz) (_ : k2 = k1 + 1) (_ : i2 = (i1 + 1)) (_ : j2 = (j1 + 1)) (_ : k2 = (k1 + 1)) (_ : ¬ ((i1 = nx) ∧ (j1 ≠ ny) ∧ (k1 ≠ nz))) (_ : ¬ ((i1 ≠ nx) ∧ (j1 = ny) ∧ (k1 ≠ nz))) (_ : ¬ ((i1 ≠ nx) ∧ (j1 ≠ ny) ∧ (k1 = nz))) (_ : (i1 = nx) ∧ (j1 = ny) ∧ (k1 ≠ nz)) :
    (0 ≤ i1 ∧ i1 < (nx + 1)) ∧ (0 ≤ j1 ∧ j1 < (ny + 1)) ∧ (0 ≤ k2 ∧ k2 < (nz + 1)) := ⟨Idx.node, Idx.node, by lia⟩

theorem interp3d_interp3d_L97c13_ctx0 (i1 i2 j1 j2 k1 k2 nx ny nz : Int) (_ : 1 ≤ nx) (_ : 0 ≤ i1) (_ : i1 ≤ nx) (_ : i2 = i1 + 1) (_ : 1 ≤ ny) (_ : 0 ≤ j1) (_ : j1 ≤ ny) (_ : j2 = j1 + 1) (_ : 1 ≤ nz) (_ : 0 ≤ k1) (_ : k1 ≤ nz) (_ : k2 = k1 + 1) (_ : i2 = (i1 + 1)) (_ : j2 = (j1 + 1)) (_ : k2 = (k1 + 1)) (_ : ¬ ((i1 = nx) ∧ (j1 ≠ ny) ∧ (k1 ≠ nz))) (_ : ¬ ((i1 ≠ nx) ∧ (j1 = ny) ∧ (k1 ≠ nz))) (_ : ¬ ((i1 ≠ nx) ∧ (j1 ≠ ny) ∧ (k1 = nz))) (_ : ¬ ((i1 = nx) ∧ (j1 = ny) ∧ (k1 ≠ nz))) (_ : (i1 = nx) ∧ (j1 ≠ ny) ∧ (k1 = nz)) :
    (0 ≤ i1 ∧ i1 < (nx + 1)) := Idx.node

theorem interp3d_interp3d_L98c24_ctx0 (i1 i2 j1 j2 k1 k2 nx ny nz : Int) (_ : 1 ≤ nx) (_ : 0 ≤ i1) (_ : i1 ≤ nx) (_ : i2 = i1 + 1) (_ : 1 ≤ ny) (_ : 0 ≤ j1) (_ : j1 ≤ ny) (_ : j2 = j1 + 1) (_ : 1 ≤ nz) (_ : 0 ≤ k1) (_ : k1 ≤ nz) (_ : k2 = k1 + 1) (_ : i2 = (i1 + 1)) (_ : j2 = (j1 + 1)) (_ : k2 = (k1 + 1)) (_ : ¬ ((i1 = nx) ∧ (j1 ≠ ny) ∧ (k1 ≠ nz))) (_ : ¬ ((i1 ≠ nx) ∧ (j1 = ny) ∧ (k1 ≠ nz))) (_ : ¬ ((i1 ≠ nx) ∧ (j1 ≠ ny) ∧ (k1 = nz))) (_ : ¬ ((i1 = nx) ∧ (j1 = ny) ∧ (k1 ≠ nz))) (_ : (i1 = nx) ∧ (j1 ≠ ny) ∧ (k1 = nz)) :
    (2 ≤ (nx + 1)) := Idx.lastButOne

theorem interp3d_interp3d_L99c13_ctx0 (i1 i2 j1 j2 k1 k2 nx ny nz : Int) (_ : 1 ≤ nx) (_ : 0 ≤ i1) (_ : i1 ≤ nx) (_ : i2 = i1 + 1) (_ : 1 ≤ ny) (_ : 0 ≤ j1) (_ : j1 ≤ ny) (_ : j2 = j1 + 1) (_ : 1 ≤ nz) (_ : 0 ≤ k1) (_ : k1 ≤ nz) (_ : k2 = k1 + 1) (_ : i2 = (i1 + 1)) (_ : j2 = (j1 + 1)) (_ : k2 = (k1 + 1)) (_ : ¬ ((i1 = nx) ∧ (j1 ≠ ny) ∧ (k1 ≠ nz))) (_ : ¬ ((i1 ≠ nx) ∧ (j1 = ny) ∧ (k1 ≠ nz))) (_ : ¬ ((i1 ≠ nx) ∧ (j1 ≠ ny) ∧ (k1 = nz))) (_ : ¬ ((i1 = nx) ∧ (j1 = ny) ∧ (k1 ≠ nz))) (_ : (i1 = nx) ∧ (j1 ≠ ny) ∧ (k1 = nz)) :
    (0 ≤ j1 ∧ j1 < (ny + 1)) := Idx.node

theorem interp3d_interp3d_L100c13_ctx0 (i1 i2 j1 j2 k1 k2 nx ny nz : Int) (_ : 1 ≤ nx) (_ : 0 ≤ i1) (_ : i1 ≤ nx) (_ : i2 = i1 + 1) (_ : 1 ≤ ny) (_ : 0 ≤ j1) (_ : j1 ≤ ny) (_ : j2 = j1 + 1) (_ : 1 ≤ nz) (_ : 0 ≤ k1) (_ : k1 ≤ nz) (_ : k2 = k1 + 1) (_ : i2 = (i1 + 1)) (_ : j2 = (j1 + 1)) (_ : k2 = (k1 + 1)) (_ : ¬ ((i1 = nx) ∧ (j1 ≠ ny) ∧ (k1 ≠ nz))) (_ : ¬ ((i1 ≠ nx) ∧ (j1 = ny) ∧ (k1 ≠ nz))) (_ : ¬ ((i1 ≠ nx) ∧ (j1 ≠ ny) ∧ (k1 = nz))) (_ : ¬ ((i1 = nx) ∧ (j1 = ny) ∧ (k1 ≠ nz))) (_ : (i1 = nx) ∧ (j1 ≠ ny) ∧ (k1 = nz)) :
    (0 ≤ j2 ∧ j2 < (ny + 1)) := by lia

theorem interp3d_interp3d_L101c13_ctx0 (i1 i2 j1 j2 k1 k2 nx ny nz : Int) (_ : 1 ≤ nx) (_ : 0 ≤ i1) (_ : i1 ≤ nx) (_ : i2 = i1 + 1) (_ : 1 ≤ ny) (_ : 0 ≤ j1) (_ : j1 ≤ ny) (_ : j2 = j1 + 1) (_ : 1 ≤ nz) (_ : 0 ≤ k1) (_ : k1 ≤ nz) (_ : k2 = k1 + 1) (_ : i2 = (i1 + 1)) (_ : j2 = (j1 + 1)) (_ : k2 = (k1 + 1)) (_ : ¬ ((i1 = nx) ∧ (j1 ≠ ny) ∧ (k1 ≠ nz))) (_ : ¬ ((i1 ≠ nx) ∧ (j1 = ny) ∧ (k1 ≠ nz))) (_ : ¬ ((i1 ≠ nx) ∧ (j1 ≠ ny) ∧ (k1 = nz))) (_ : ¬ ((i1 = nx) ∧ (j1 = ny) ∧ (k1 ≠ nz))) (_ : (i1 = nx) ∧ (j1 ≠ ny) ∧ (k1 = nz)) :
    (0 ≤ k1 ∧ k1 < (nz + 1)) := Idx.node

theorem interp3d_interp3d_L102c24_ctx0 (i1 i2 j1 j2 k1 k2 nx ny nz : Int) (_ : 1 ≤ nx) (_ : 0 ≤ i1) (_ : i1 ≤ nx) (_ : i2 = i1 + 1) (_ : 1 ≤ ny) (_ : 0 ≤ j1) (_ : j1 ≤ ny) (_ : j2 = j1 + 1) (_ : 1 ≤ nz) (_ : 0 ≤ k1) (_ : k1 ≤ nz) (_ : k2 = k1 + 1) (_ : i2 = (i1 + 1)) (_ : j2 = (j1 + 1)) (_ : k2 = (k1 + 1)) (_ : ¬ ((i1 = nx) ∧ (j1 ≠ ny) ∧ (k1 ≠ nz))) (_ : ¬ ((i1 ≠ nx) ∧ (j1 = ny) ∧ (k1 ≠ nz))) (_ : ¬ ((i1 ≠ nx) ∧ (j1 ≠ ny) ∧ (k1 = nz))) (_ : ¬ ((i1 = nx) ∧ (j1 = ny) ∧ (k1 ≠ nz))) (_ : (i1 = nx) ∧ (j1 ≠ ny) ∧ (k1 = nz)) :
    (2 ≤ (nz + 1)) := Idx.lastButOne

theorem interp3d_interp3d_L104c15_ctx0 (i1 i2 j1 j2 k1 k2 nx ny nz : Int) (_ : 1 ≤ nx) (_ : 0 ≤ i1) (_ : i1 ≤ nx) (_ : i2 = i1 + 1) (_ : 1 ≤ ny) (_ : 0 ≤ j1) (_ : j1 ≤ ny) (_ : j2 = j1 + 1) (_ : 1 ≤ nz) (_ : 0 ≤ k1) (_ : k1 ≤ nz) (_ : k2 = k1 + 1) (_ : i2 = (i1 + 1)) (_ : j2 = (j1 + 1)) (_ : k2 = (k1 + 1)) (_ : ¬ ((i1 = nx) ∧ (j1 ≠ ny) ∧ (k1 ≠ nz))) (_ : ¬ ((i1 ≠ nx) ∧ (j1 = ny) ∧ (k1 ≠ nz))) (_ : ¬ ((i1 ≠ nx) ∧ (j1 ≠ ny) ∧ (k1 = nz))) (_ : ¬ ((i1 = nx) ∧ (j1 = ny) ∧ (k1 ≠ nz))) (_ : (i1 = nx) ∧ (j1 ≠ ny) ∧ (k1 = nz)) :
    (0 ≤ i1 ∧ i1 < (nx + 1)) ∧ (0 ≤ j1 ∧ j1 < (ny + 1)) ∧ (0 ≤ k1 ∧ k1 < (nz + 1)) := ⟨Idx.node, Idx.node, Idx.node⟩

theorem interp3d_interp3d_L106c15_ctx0 (i1 i2 j1 j2 k1 k2 nx ny nz : Int) (_ : 1 ≤ nx) (_ : 0 ≤ i1) (_ : i1 ≤ nx) (_ : i2 = i1 + 1) (_ : 1 ≤ ny) (_ : 0 ≤ j1) (_ : j1 ≤ ny) (_ : j2 = j1 + 1) (_ : 1 ≤ nz) (_ : 0 ≤ k1) (_ : k1 ≤ nz) (_ : k2 = k1 + 1) (_ : i2 = (i1 + 1)) (_ : j2 = (j1 + 1)) (_ : k2 = (k1 + 1)) (_ : ¬ ((i1 = nx) ∧ (j1 ≠ ny) ∧ (k1 ≠ nz))) (_ : ¬ ((i1 ≠ nx) ∧ (j1 = ny) ∧ (k1 ≠ nz))) (_ : ¬ ((i1 ≠ nx) ∧ (j1 ≠ ny) ∧ (k1 = nz))) (_ : ¬ ((i1 = nx) ∧ (j1 = ny) ∧ (k1 ≠ nz))) (_ : (i1 = nx) ∧ (j1 ≠ ny) ∧ (k1 = nz)) :
    (0 ≤ i1 ∧ i1 < (nx + 1)) ∧ (0 ≤ j2 ∧ j2 < (ny + 1)) ∧ (0 ≤ k1 ∧ k1 < (nz + 1)) := ⟨Idx.node, by lia, Idx.node⟩

theorem interp3d_interp3d_L114c13_ctx0 (i1 i2 j1 j2 k1 k2 nx ny nz : Int) (_ : 1 ≤ nx) (_ : 0 ≤ i1) (_ : i1 ≤ nx) (_ : i2 = i1 + 1) (_ : 1 ≤ ny) (_ : 0 ≤ j1) (_ : j1 ≤ ny) (_ : j2 = j1 + 1) (_ : 1 ≤ nz) (_ : 0 ≤ k1) (_ : k1 ≤ nz) (_ : k2 = k1 + 1) (_ : i2 = (i1 + 1)) (_ : j2 = (j1 + 1)) (_ : k2 = (k1 + 1)) (_ : ¬ ((i1 = nx) ∧ (j1 ≠ ny) ∧ (k1 ≠ nz))) (_ : ¬ ((i1 ≠ nx) ∧ (j1 = ny) ∧ (k1 ≠ nz))) (_ : ¬ ((i1 ≠ nx) ∧ (j1 ≠ ny) ∧ (k1 = nz))) (_ : ¬ ((i1 = nx) ∧ (j1 = ny) ∧ (k1 ≠ nz))) (_ : ¬ ((i1 = nx) ∧ (j1 ≠ ny) ∧ (k1 = nz))) (_ : (i1 ≠ nx) ∧ (j1 = ny) ∧ (k1 = nz)) :
    (0 ≤ i1 ∧ i1 < (nx + 1)) := Idx.node

theorem interp3d_interp3d_L115c13_ctx0 (i1 i2 j1 j2 k1 k2 nx ny nz : Int) (_ : 1 ≤ nx) (_ : 0 ≤ i1) (_ : i1 ≤ nx) (_ : i2 = i1 + 1) (_ : 1 ≤ ny) (_ : 0 ≤ j1) (_ : j1 ≤ ny) (_ : j2 = j1 + 1) (_ : 1 ≤ nz) (_ : 0 ≤ k1) (_ : k1 ≤ nz) (_ : k2 = k1 + 1) (_ : i2 = (i1 + 1)) (_ : j2 = (j1 + 1)) (_ : k2 = (k1 + 1)) (_ : ¬ ((i1 = nx) ∧ (j1 ≠ ny) ∧ (k1 ≠ nz))) (_ : ¬ ((i1 ≠ nx) ∧ (j1 = ny) ∧ (k1 ≠ nz))) (_ : ¬ ((i1 ≠ nx) ∧ (j1 ≠ ny) ∧ (k1 = nz))) (_ : ¬ ((i1 = nx) ∧ (j1 = ny) ∧ (k1 ≠ nz))) (_ : ¬ ((i1 = nx) ∧ (j1 ≠ ny) ∧ (k1 = nz))) (_ : (i1 ≠ nx) ∧ (j1 = ny) ∧ (k1 = nz)) :
    (0 ≤ i2 ∧ i2 < (nx + 1)) := by lia

theorem interp3d_interp3d_L116c13_ctx0 (i1 i2 j1 j2 k1 k2 nx ny nz : Int) (_ : 1 ≤ nx) (_ : 0 ≤ i1) (_ : i1 ≤ nx) (_ : i2 = i1 + 1) (_ : 1 ≤ ny) (_ : 0 ≤ j1) (_ : j1 ≤ ny) (_ : j2 = j1 + 1) (_ : 1 ≤ nz) (_ : 0 ≤ k1) (_ : k1 ≤ nz) (_ : k2 = k1 + 1) (_ : i2 = (i1 + 1)) (_ : j2 = (j1 + 1)) (_ : k2 = (k1 + 1)) (_ : ¬ ((i1 = nx) ∧ (j1 ≠ ny) ∧ (k1 ≠ nz))) (_ : ¬ ((i1 ≠ nx) ∧ (j1 = ny) ∧ (k1 ≠ nz))) (_ : ¬ ((i1 ≠ nx) ∧ (j1 ≠ ny) ∧ (k1 = nz))) (_ : ¬ ((i1 = nx) ∧ (j1 = ny) ∧ (k1 ≠ nz))) (_ : ¬ ((i1 = nx) ∧ (j1 ≠ ny) ∧ (k1 = nz))) (_ : (i1 ≠ nx) ∧ (j1 = ny) ∧ (k1 = nz)) :
    (0 ≤ j1 ∧ j1 < (ny + 1)) := Idx.node

theorem interp3d_interp3d_L117c24_ctx0 (i1 i2 j1 j2 k1 k2 nx ny nz : Int) (_ : 1 ≤ nx) (_ : 0 ≤ i1) (_ : i1 ≤ nx) (_ : i2 = i1 + 1) (_ : 1 ≤ ny) (_ : 0 ≤ j1) (_ : j1 ≤ ny) (_ : j2 = j1 + 1) (_ : 1 ≤ nz) (_ : 0 ≤ k1) (_ : k1 ≤ nz) (_ : k2 = k1 + 1) (_ : i2 = (i1 + 1)) (_ : j2 = (j1 + 1)) (_ : k2 = (k1 + 1)) (_ : ¬ ((i1 = nx) ∧ (j1 ≠ ny) ∧ (k1 ≠ nz))) (_ : ¬ ((i1 ≠ nx) ∧ (j1 = ny) ∧ (k1 ≠ nz))) (_ : ¬ ((i1 ≠ nx) ∧ (j1 ≠ ny) ∧ (k1 = nz))) (_ : ¬ ((i1 = nx) ∧ (j1 = ny) ∧ (k1 ≠ nz))) (_ : ¬ ((i1 = nx) ∧ (j1 ≠ ny) ∧ (k1 = nz))) (_ : (i1 ≠ nx) ∧ (j1 = ny) ∧ (k1 = nz)) :
    (2 ≤ (ny + 1)) := Idx.lastButOne

theorem interp3d_interp3d_L118c13_ctx0 (i1 i2 j1 j2 k1 k2 nx ny nz : Int) (_ : 1 ≤ nx) (_ : 0 ≤ i1) (_ : i1 ≤ nx) (_ : i2 = i1 + 1) (_ : 1 ≤ ny) (_ : 0 ≤ j1) (_ : j1 ≤ ny) (_ : j2 = j1 + 1) (_ : 1 ≤ nz) (_ : 0 ≤ k1) (_ : k1 ≤ nz) (_ : k2 = k1 + 1) (_ : i2 = (i1 + 1)) (_ : j2 = (j1 + 1)) (_ : k2 = (k1 + 1)) (_ : ¬ ((i1 = nx) ∧ (j1 ≠ ny) ∧ (k1 ≠ nz))) (_ : ¬ ((i1 ≠ nx) ∧ (j1 = ny) ∧ (k1 ≠ nz))) (_ : ¬ ((i1 ≠ nx) ∧ (j1 ≠ ny) ∧ (k1 = nz))) (_ : ¬ ((i1 = nx) ∧ (j1 = ny) ∧ (k1 ≠ nz))) (_ : ¬ ((i1 = nx) ∧ (j1 ≠ ny) ∧ (k1 = nz))) (_ : (i1 ≠ nx) ∧ (j1 = ny) ∧ (k1 = nz)) :
    (0 ≤ k1 ∧ k1 < (nz + 1)) := Idx.node

theorem interp3d_interp3d_L119c24_ctx0 (i1 i2 j1 j2 k1 k2 nx ny nz : Int) (_ : 1 ≤ nx) (_ : 0 ≤ i1) (_ : i1 ≤ nx) (_ : i2 = i1 + 1) (_ : 1 ≤ ny) (_ : 0 ≤ j1) (_ : j1 ≤ ny) (_ : j2 = j1 + 1) (_ : 1 ≤ nz) (_ : 0 ≤ k1) (_ : k1 ≤ nz) (_ : k2 = k1 + 1) (_ : i2 = (i1 + 1)) (_ : j2 = (j1 + 1)) (_ : k2 = (k1 + 1)) (_ : ¬ ((i1 = nx) ∧ (j1 ≠ ny) ∧ (k1 ≠ nz))) (_ : ¬ ((i1 ≠ nx) ∧ (j1 = ny) ∧ (k1 ≠ nz))) (_ : ¬ ((i1 ≠ nx) ∧ (j1 ≠ ny) ∧ (k1 = nz))) (_ : ¬ ((i1 = nx) ∧ (j1 = ny) ∧ (k1 ≠ nz))) (_ : ¬ ((i1 = nx) ∧ (j1 ≠ ny) ∧ (k1 = nz))) (_ : (i1 ≠ nx) ∧ (j1 = ny) ∧ (k1 = nz)) :
    (2 ≤ (nz + 1)) := Idx.lastButOne

theorem interp3d_interp3d_L121c15_ctx0 (i1 i2 j1 j2 k1 k2 nx ny nz : Int) (_ : 1 ≤ nx) (_ : 0 ≤ i1) (_ : i1 ≤ nx) (_ : i2 = i1 + 1) (_ : 1 ≤ ny) (_ : 0 ≤ j1) (_ : j1 ≤ ny) (_ : j2 = j1 + 1) (_ : 1 ≤ nz) (_ : 0 ≤ k1) (_ : k1 ≤ nz) (_ : k2 = k1 + 1) (_ : i2 = (i1 + 1)) (_ : j2 = (j1 + 1)) (_ : k2 = (k1 + 1)) (_ : ¬ ((i1 = nx) ∧ (j1 ≠ ny) ∧ (k1 ≠ nz))) (_ : ¬ ((i1 ≠ nx) ∧ (j1 = ny) ∧ (k1 ≠ nz))) (_ : ¬ ((i1 ≠ nx) ∧ (j1 ≠ ny) ∧ (k1 = nz))) (_ : ¬ ((i1 = nx) ∧ (j1 = ny) ∧ (k1 ≠ nz))) (_ : ¬ ((i1 = nx) ∧ (j1 ≠ ny) ∧ (k1 = nz))) (_ : (i1 ≠ nx) ∧ (j1 = ny) ∧ (k1 = nz)) :
    (0 ≤ i1 ∧ i1 < (nx + 1)) ∧ (0 ≤ j1 ∧ j1 < (ny + 1)) ∧ (0 ≤ k1 ∧ k1 < (nz + 1)) := ⟨Idx.node, Idx.node, Idx.node⟩

theorem interp3d_interp3d_L122c15_ctx0 (i1 i2 j1 j2 k1 k2 nx ny nz : Int) (_ : 1 ≤ nx) (_ : 0 ≤ i1) (_ : i1 ≤ nx) (_ : i2 = i1 + 1) (_ : 1 ≤ ny) (_ : 0 ≤ j1) (_ : j1 ≤ ny) (_ : j2 = j1 + 1) (_ : 1 ≤ nz) (_ : 0 ≤ k1) (_ : k1 ≤ nz) (_ : k2 = k1 + 1) (_ : i2 = (i1 + 1)) (_ : j2 = (j1 + 1)) (_ : k2 = (k1 + 1)) (_ : ¬ ((i1 = nx) ∧ (j1 ≠ ny) ∧ (k1 ≠ nz))) (_ : ¬ ((i1 ≠ nx) ∧ (j1 = ny) ∧ (k1 ≠ nz))) (_ : ¬ ((i1 ≠ nx) ∧ (j1 ≠ ny) ∧ (k1 = nz))) (_ : ¬ ((i1 = nx) ∧ (j1 = ny) ∧ (k1 ≠ nz))) (_ : ¬ ((i1 = nx) ∧ (j1 ≠ ny) ∧ (k1 = nz))) (_ : (i1 ≠ nx) ∧ (j1 = ny) ∧ (k1 = nz)) :
    (0 ≤ i2 ∧ i2 < (nx + 1)) ∧ (0 ≤ j1 ∧ j1 < (ny + 1)) ∧ (0 ≤ k1 ∧ k1 < (nz + 1)) := ⟨by lia, Idx.node, Idx.node⟩

theorem interp3d_interp3d_L131c13_ctx0 (i1 i2 j1 j2 k1 k2 nx ny nz : Int) (_ : 1 ≤ nx) (_ : 0 ≤ i1) (_ : i1 ≤ nx) (_ : i2 = i1 + 1) (_ : 1 ≤ ny) (_ : 0 ≤ j1) (_ : j1 ≤ ny) (_ : j2 = j1 + 1) (_ : 1 ≤ nz) (_ : 0 ≤ k1) (_ : k1 ≤ nz) (_ : k2 = k1 + 1) (_ : i2 = (i1 + 1)) (_ : j2 = (j1 + 1)) (_ : k2 = (k1 + 1)) (_ : ¬ ((i1 = nx) ∧ (j1 ≠ ny) ∧ (k1 ≠ nz))) (_ : ¬ ((i1 ≠ nx) ∧ (j1 = ny) ∧ (k1 ≠ nz))) (_ : ¬ ((i1 ≠ nx) ∧ (j1 ≠ ny) ∧ (k1 = nz))) (_ : ¬ ((i1 = nx) ∧ (j1 = ny) ∧ (k1 ≠ nz))) (_ : ¬ ((i1 = nx) ∧ (j1 ≠ ny) ∧ (k1 = nz))) (_ : ¬ ((i1 ≠ nx) ∧ (j1 = ny) ∧ (k1 = nz))) (_ : (i1 = nx) ∧ (j1 = ny) ∧ (k1 = nz)) :
    (0 ≤ i1 ∧ i1 < (nx + 1)) := Idx.node

theorem interp3d_interp3d_L132c24_ctx0 (i1 i2 j1 j2 k1 k2 nx ny nz : Int) (_ : 1 ≤ nx) (_ : 0 ≤ i1) (_ : i1 ≤ nx) (_ : i2 = i1 + 1) (_ : 1 ≤ ny) (_ : 0 ≤ j1) (_ : j1 ≤ ny) (_ : j2 = j1 + 1) (_ : 1 ≤ nz) (_ : 0 ≤ k1) (_ : k1 ≤ nz) (_ : k2 = k1 + 1) (_ : i2 = (i1 + 1)) (_ : j2 = (j1 + 1)) (_ : k2 = (k1 + 1)) (_ : ¬ ((i1 = nx) ∧ (j1 ≠ ny) ∧ (k1 ≠ nz))) (_ : ¬ ((i1 ≠ nx) ∧ (j1 = ny) ∧ (k1 ≠ nz))) (_ : ¬ ((i1 ≠ nx) ∧ (j1 ≠ ny) ∧ (k1 = nz))) (_ : ¬ ((i1 = nx) ∧ (j1 = ny) ∧ (k1 ≠ nz))) (_ : ¬ ((i1 = nx) ∧ (j1 ≠ ny) ∧ (k1 = nz))) (_ : ¬ ((i1 ≠ nx) ∧ (j1 = ny) ∧ (k1 = nz))) (_ : (i1 = nx) ∧ (j1 = ny) ∧ (k1 = nz)) :
    (2 ≤ (nx + 1)) := Idx.lastButOne

theorem interp3d_interp3d_L133c13_ctx0 (i1 i2 j1 j2 k1 k2 nx ny nz : Int) (_ : 1 ≤ nx) (_ : 0 ≤ i1) (_ : i1 ≤ nx) (_ : i2 = i1 + 1) (_ : 1 ≤ ny) (_ : 0 ≤ j1) (_ : j1 ≤ ny) (_ : j2 = j1 + 1) (_ : 1 ≤ nz) (_ : 0 ≤ k1) (_ : k1 ≤ nz) (_ : k2 = k1 + 1) (_ : i2 = (i1 + 1)) (_ : j2 = (j1 + 1)) (_ : k2 = (k1 + 1)) (_ : ¬ ((i1 = nx) ∧ (j1 ≠ ny) ∧ (k1 ≠ nz))) (_ : ¬ ((i1 ≠ nx) ∧ (j1 = ny) ∧ (k1 ≠ nz))) (_ : ¬ ((i1 ≠ nx) ∧ (j1 ≠ ny) ∧ (k1 = nz))) (_ : ¬ ((i1 = nx) ∧ (j1 = ny) ∧ (k1 ≠ nz))) (_ : ¬ ((i1 = nx) ∧ (j1 ≠ ny) ∧ (k1 = nz))) (_ : ¬ ((i1 ≠ nx) ∧ (j1 = ny) ∧ (k1 = nz))) (_ : (i1 = nx) ∧ (j1 = ny) ∧ (k1 = nz)) :
    (0 ≤ j1 ∧ j1 < (ny + 1)) := Idx.node

theorem interp3d_interp3d_L134c24_ctx0 (i1 i2 j1 j2 k1 k2 nx ny nz : Int) (_ : 1 ≤ nx) (_ : 0 ≤ i1) (_ : i1 ≤ nx) (_ : i2 = i1 + 1) (_ : 1 ≤ ny) (_ : 0 ≤ j1) (_ : j1 ≤ ny) (_ : j2 = j1 + 1) (_ : 1 ≤ nz) (_ : 0 ≤ k1) (_ : k1 ≤ nz) (_ : k2 = k1 + 1) (_ : i2 = (i1 + 1)) (_ : j2 = (j1 + 1)) (_ : k2 = (k1 + 1)) (_ : ¬ ((i1 = nx) ∧ (j1 ≠ ny) ∧ (k1 ≠ nz))) (_ : ¬ ((i1 ≠ nx) ∧ (j1 = ny) ∧ (k1 ≠ nz))) (_ : ¬ ((i1 ≠ nx) ∧ (j1 ≠ ny) ∧ (k1 = nz))) (_ : ¬ ((i1 = nx) ∧ (j1 = ny) ∧ (k1 ≠ nz))) (_ : ¬ ((i1 = nx) ∧ (j1 ≠ ny) ∧ (k1 = nz))) (_ : ¬ ((i1 ≠ nx) ∧ (j1 = ny) ∧ (k1 = nz))) (_ : (i1 = nx) ∧ (j1 = ny) ∧ (k1 = nz)) :
    (2 ≤ (ny + 1)) := Idx.lastButOne

theorem interp3d_interp3d_L135c13_ctx0 (i1 i2 j1 j2 k1 k2 nx ny nz : Int) (_ : 1 ≤ nx) (_ : 0 ≤ i1) (_ : i1 ≤ nx) (_ : i2 = i1 + 1) (_ : 1 ≤ ny) (_ : 0 ≤ j1) (_ : j1 ≤ ny) (_ : j2 = j1 + 1) (_ : 1 ≤ nz) (_ : 0 ≤ k1) (_ : k1 ≤ nz) (_ : k2 = k1 + 1) (_ : i2 = (i1 + 1)) (_ : j2 = (j1 + 1)) (_ : k2 = (k1 + 1)) (_ : ¬ ((i1 = nx) ∧ (j1 ≠ ny) ∧ (k1 ≠ nz))) (_ : ¬ ((i1 ≠ nx) ∧ (j1 = ny) ∧ (k1 ≠ nz))) (_ : ¬ ((i1 ≠ nx) ∧ (j1 ≠ ny) ∧ (k1 = nz))) (_ : ¬ ((i1 = nx) ∧ (j1 = ny) ∧ (k1 ≠ nz))) (_ : ¬ ((i1 = nx) ∧ (j1 ≠ ny) ∧ (k1 = nz))) (_ : ¬ ((i1 ≠ nx) ∧ (j1 = ny) ∧ (k1 = nz))) (_ : (i1 = nx) ∧ (j1 = ny) ∧ (k1 = nz)) :
    (0 ≤ k1 ∧ k1 < (nz + 1)) := Idx.node

theorem interp3d_interp3d_L136c24_ctx0 (i1 i2 j1 j2 k1 k2 nx ny nz : Int) (_ : 1 ≤ nx) (_ : 0 ≤ i1) (_ : i1 ≤ nx) (_ : i2 = i1 + 1) (_ : 1 ≤ ny) (_ : 0 ≤ j1) (_ : j1 ≤ ny) (_ : j2 = j1 + 1) (_ : 1 ≤ nz) (_ : 0 ≤ k1) (_ : k1 ≤ nz) (_ : k2 = k1 + 1) (_ : i2 = (i1 + 1)) (_ : j2 = (j1 + 1)) (_ : k2 = (k1 + 1)) (_ : ¬ ((i1 = nx) ∧ (j1 ≠ ny) ∧ (k1 ≠ nz))) (_ : ¬ ((i1 ≠ nx) ∧ (j1 = ny) ∧ (k1 ≠ nz))) (_ : ¬ ((i1 ≠ nx) ∧ (j1 ≠ ny) ∧ (k1 = nz))) (_ : ¬ ((i1 = nx) ∧ (j1 = ny) ∧ (k1 ≠ nz))) (_ : ¬ ((i1 = nx) ∧ (j1 ≠ ny) ∧ (k1 = nz))) (_ : ¬ ((i1 ≠ nx) ∧ (j1 = ny) ∧ (k1 = nz))) (_ : (i1 = nx) ∧ (j1 = ny) ∧ (k1 = nz)) :
    (2 ≤ (nz + 1)) := Idx.lastButOne

theorem interp3d_interp3d_L138c15_ctx0 (i1 i2 j1 j2 k1 k2 nx ny nz : Int) (_ : 1 ≤ nx) (_ : 0 ≤ i1) (_ : i1 ≤ nx) (_ : i2 = i1 + 1) (_ : 1 ≤ ny) (_ : 0 ≤ j1) (_ : j1 ≤ ny) (_ : j2 = j1 + 1) (_ : 1 ≤ nz) (_ : 0 ≤ k1) (_ : k1 ≤ nz) (_ : k2 = k1 + 1) (_ : i2 = (i1 + 1)) (_ : j2 = (j1 + 1)) (_ : k2 = (k1 + 1)) (_ : ¬ ((i1 = nx) ∧ (j1 ≠ ny) ∧ (k1 ≠ nz))) (_ : ¬ ((i1 ≠ nx) ∧ (j1 = ny) ∧ (k1 ≠ nz))) (_ : ¬ ((i1 ≠ nx) ∧ (j1 ≠ ny) ∧ (k1 = nz))) (_ : ¬ ((i1 = nx) ∧ (j1 = ny) ∧ (k1 ≠ nz))) (_ : ¬ ((i1 = nx) ∧ (j1 ≠ ny) ∧ (k1 = nz))) (_ : ¬ ((i1 ≠ nx) ∧ (j1 = ny) ∧ (k1 = nz))) (_ : (i1 = nx) ∧ (j1 = ny) ∧ (k1 = nz)) :
    (0 ≤ i1 ∧ i1 < (nx + 1)) ∧ (0 ≤ j1 ∧ j1 < (ny + 1)) ∧ (0 ≤ k1 ∧ k1 < (nz + 1)) := ⟨Idx.node, Idx.node, Idx.node⟩

theorem interp3d_interp3d_L148c13_ctx0 (i1 i2 j1 j2 k1 k2 nx ny nz : Int) (_ : 1 ≤ nx) (_ : 0 ≤ i1) (_ : i1 ≤ nx) (_ : i2 = i1 + 1) (_ : 1 ≤ ny) (_ : 0 ≤ j1) (_ : j1 ≤ ny) (_ : j2 = j1 + 1) (_ : 1 ≤ nz) (_ : 0 ≤ k1) (_ : k1 ≤ nz) (_ : k2 = k1 + 1) (_ : i2 = (i1 + 1)) (_ : j2 = (j1 + 1)) (_ : k2 = (k1 + 1)) (_ : ¬ ((i1 = nx) ∧ (j1 ≠ ny) ∧ (k1 ≠ nz))) (_ : ¬ ((i1 ≠ nx) ∧ (j1 = ny) ∧ (k1 ≠ nz))) (_ : ¬ ((i1 ≠ nx) ∧ (j1 ≠ ny) ∧ (k1 = nz))) (_ : ¬ ((i1 = nx) ∧ (j1 = ny) ∧ (k1 ≠ nz))) (_ : ¬ ((i1 = nx) ∧ (j1 ≠ ny) ∧ (k1 = nz))) (_ : ¬ ((i1 ≠ nx) ∧ (j1 = ny) ∧ (k1 = nz))) (_ : ¬ ((i1 = nx) ∧ (j1 = ny) ∧ (k1 = nz))) :
    (0 ≤ i1 ∧ i1 < (nx + 1)) := Idx.node

theorem interp3d_interp3d_L149c13_ctx0 (i1 i2 j1 j2 k1 k2 nx ny nz : Int) (_ : 1 ≤ nx) (_ : 0 ≤ i1) (_ : i1 ≤ nx) (_ : i2 = i1 + 1) (_ : 1 ≤ ny) (_ : 0 ≤ j1) (_ : j1 ≤ ny) (_ : j2 = j1 + 1) (_ : 1 ≤ nz) (_ : 0 ≤ k1) (_ : k1 ≤ nz) (_ : k2 = k1 + 1) (_ : i2 = (i1 + 1)) (_ : j2 = (j1 + 1)) (_ : k2 = (k1 + 1)) (_ : ¬ ((i1 = nx) ∧ (j1 ≠ ny) ∧ (k1 ≠ nz))) (_ : ¬ ((i1 ≠ nx) ∧ (j1 = ny) ∧ (k1 ≠ nz))) (_ : ¬ ((i1 ≠ nx) ∧ (j1 ≠ ny) ∧ (k1 = nz))) (_ : ¬ ((i1 = nx) ∧ (j1 = ny) ∧ (k1 ≠ nz))) (_ : ¬ ((i1 = nx) ∧ (j1 ≠ ny) ∧ (k1 = nz))) (_ : ¬ ((i1 ≠ nx) ∧ (j1 = ny) ∧ (k1 = nz))) (_ : ¬ ((i1 = nx) ∧ (j1 = ny) ∧ (k1 = nz))) :
    (0 ≤ i2 ∧ i2 < (nx + 1)) := by lia

theorem interp3d_interp3d_L150c13_ctx0 (i1 i2 j1 j2 k1 k2 nx ny nz : Int) (_ : 1 ≤ nx) (_ : 0 ≤ i1) (_ : i1 ≤ nx) (_ : i2 = i1 + 1) (_ : 1 ≤ ny) (_ : 0 ≤ j1) (_ : j1 ≤ ny) (_ : j2 = j1 + 1) (_ : 1 ≤ nz) (_ : 0 ≤ k1) (_ : k1 ≤ nz) (_ : k2 = k1 + 1) (_ : i2 = (i1 + 1)) (_ : j2 = (j1 + 1)) (_ : k2 = (k1 + 1)) (_ : ¬ ((i1 = nx) ∧ (j1 ≠ ny) ∧ (k1 ≠ nz))) (_ : ¬ ((i1 ≠ nx) ∧ (j1 = ny) ∧ (k1 ≠ nz))) (_ : ¬ ((i1 ≠ nx) ∧ (j1 ≠ ny) ∧ (k1 = nz))) (_ : ¬ ((i1 = nx) ∧ (j1 = ny) ∧ (k1 ≠ nz))) (_ : ¬ ((i1 = nx) ∧ (j1 ≠ ny) ∧ (k1 = nz))) (_ : ¬ ((i1 ≠ nx) ∧ (j1 = ny) ∧ (k1 = nz))) (_ : ¬ ((i1 = nx) ∧ (j1 = ny) ∧ (k1 = nz))) :
    (0 ≤ j1 ∧ j1 < (ny + 1)) := Idx.node

theorem interp3d_interp3d_L151c13_ctx0 (i1 i2 j1 j2 k1 k2 nx ny nz : Int) (_ : 1 ≤ nx) (_ : 0 ≤ i1) (_ : i1 ≤ nx) (_ : i2 = i1 + 1) (_ : 1 ≤ ny) (_ : 0 ≤ j1) (_ : j1 ≤ ny) (_ : j2 = j1 + 1) (_ : 1 ≤ nz) (_ : 0 ≤ k1) (_ : k1 ≤ nz) (_ : k2 = k1 + 1) (_ : i2 = (i1 + 1)) (_ : j2 = (j1 + 1)) (_ : k2 = (k1 + 1)) (_ : ¬ ((i1 = nx) ∧ (j1 ≠ ny) ∧ (k1 ≠ nz))) (_ : ¬ ((i1 ≠ nx) ∧ (j1 = ny) ∧ (k1 ≠ nz))) (_ : ¬ ((i1 ≠ nx) ∧ (j1 ≠ ny) ∧ (k1 = nz))) (_ : ¬ ((i1 = nx) ∧ (j1 = ny) ∧ (k1 ≠ nz))) (_ : ¬ ((i1 = nx) ∧ (j1 ≠ ny) ∧ (k1 = nz))) (_ : ¬ ((i1 ≠ nx) ∧ (j1 = ny) ∧ (k1 = nz))) (_ : ¬ ((i1 = nx) ∧ (j1 = ny) ∧ (k1 = nz))) :
    (0 ≤ j2 ∧ j2 < (ny + 1)) := by lia

theorem interp3d_interp3d_L152c13_ctx0 (i1 i2 j1 j2 k1 k2 nx ny nz : Int) (_ : 1 ≤ nx) (_ : 0 ≤ i1) (_ : i1 ≤ nx) (_ : i2 = i1 + 1) (_ : 1 ≤ ny) (_ : 0 ≤ j1) (_ : j1 ≤ ny) (_ : j2 = j1 + 1) (_ : 1 ≤ nz) (_ : 0 ≤ k1) (_ : k1 ≤ nz) (_ : k2 = k1 + 1) (_ : i2 = (i1 + 1)) (_ : j2 = (j1 + 1)) (_ : k2 = (k1 + 1)) (_ : ¬ ((i1 = nx) ∧ (j1 ≠ ny) ∧ (k1 ≠ nz))) (_ : ¬ ((i1 ≠ nx) ∧ (j1 = ny) ∧ (k1 ≠ nz))) (_ : ¬ ((i1 ≠ nx) ∧ (j1 ≠ ny) ∧ (k1 = nz))) (_ : ¬ ((i1 = nx) ∧ (j1 = ny) ∧ (k1 ≠ nz))) (_ : ¬ ((i1 = nx) ∧ (j1 ≠ ny) ∧ (k1 = nz))) (_ : ¬ ((i1 ≠ nx) ∧ (j1 = ny) ∧ (k1 = nz))) (_ : ¬ ((i1 = nx) ∧ (j1 = ny) ∧ (k1 = nz))) :
    (0 ≤ k1 ∧ k1 < (nz + 1)) := Idx.node

theorem interp3d_interp3d_L153c13_ctx0 (i1 i2 j1 j2 k1 k2 nx ny nz : Int) (_ : 1 ≤ nx) (_ : 0 ≤ i1) (_ : i1 ≤ nx) (_ : i2 = i1 + 1) (_ : 1 ≤ ny) (_ : 0 ≤ j1) (_ : j1 ≤ ny) (_ : j2 = j1 + 1) (_ : 1 ≤ nz) (_ : 0 ≤ k1) (_ : k1 ≤ nz) (_ : k2 = k1 + 1) (_ : i2 = (i1 + 1)) (_ : j2 = (j1 + 1)) (_ : k2 = (k1 + 1)) (_ : ¬ ((i1 = nx) ∧ (j1 ≠ ny) ∧ (k1 ≠ nz))) (_ : ¬ ((i1 ≠ nx) ∧ (j1 = ny) ∧ (k1 ≠ nz))) (_ : ¬ ((i1 ≠ nx) ∧ (j1 ≠ ny) ∧ (k1 = nz))) (_ : ¬ ((i1 = nx) ∧ (j1 = ny) ∧ (k1 ≠ nz))) (_ : ¬ ((i1 = nx) ∧ (j1 ≠ ny) ∧ (k1 = nz))) (_ : ¬ ((i1 ≠ nx) ∧ (j1 = ny) ∧ (k1 = nz))) (_ : ¬ ((i1 = nx) ∧ (j1 = ny) ∧ (k1 = nz))) :
    (0 ≤ k2 ∧ k2 < (nz + 1)) := by lia

theorem interp3d_interp3d_L155c15_ctx0 (i1 i2 j1 j2 k1 k2 nx ny nz : Int) (_ : 1 ≤ nx) (_ : 0 ≤ i1) (_ : i1 ≤ nx) (_ : i2 = i1 + 1) (_ : 1 ≤ ny) (_ : 0 ≤ j1) (_ : j1 ≤ ny) (_ : j2 = j1 + 1) (_ : 1 ≤ nz) (_ : 0 ≤ k1) (_ : k1 ≤ nz) (_ : k2 = k1 + 1) (_ : i2 = (i1 + 1)) (_ : j2 = (j1 + 1)) (_ : k2 = (k1 + 1)) (_ : ¬ ((i1 = nx) ∧ (j1 ≠ ny) ∧ (k1 ≠ nz))) (_ : ¬ ((i1 ≠ nx) ∧ (j1 = ny) ∧ (k1 ≠ nz))) (_ : ¬ ((i1 ≠ nx) ∧ (j1 ≠ ny) ∧ (k1 = nz))) (_ : ¬ ((i1 = nx) ∧ (j1 = ny) ∧ (k1 ≠ nz))) (_ : ¬ ((i1 = nx) ∧ (j1 ≠ ny) ∧ (k1 = nz))) (_ : ¬ ((i1 ≠ nx) ∧ (j1 = ny) ∧ (k1 = nz))) (_ : ¬ ((i1 = nx) ∧ (j1 = ny) ∧ (k1 = nz))) :
    (0 ≤ i1 ∧ i1 < (nx + 1)) ∧ (0 ≤ j1 ∧ j1 < (ny + 1)) ∧ (0 ≤ k1 ∧ k1 < (nz + 1)) := ⟨Idx.node, Idx.node, Idx.node⟩

theorem interp3d_interp3d_L156c15_ctx0 (i1 i2 j1 j2 k1 k2 nx ny nz : Int) (_ : 1 ≤ nx) (_ : 0 ≤ i1) (_ : i1 ≤ nx) (_ : i2 = i1 + 1) (_ : 1 ≤ ny) (_ : 0 ≤ j1) (_ : j1 ≤ ny) (_ : j2 = j1 + 1) (_ : 1 ≤ nz) (_ : 0 ≤ k1) (_ : k1 ≤ nz) (_ : k2 = k1 + 1) (_ : i2 = (i1 + 1)) (_ : j2 = (j1 + 1)) (_ : k2 = (k1 + 1)) (_ : ¬ ((i1 = nx) ∧ (j1 ≠ ny) ∧ (k1 ≠ nz))) (_ : ¬ ((i1 ≠ nx) ∧ (j1 = ny) ∧ (k1 ≠ nz))) (_ : ¬ ((i1 ≠ nx) ∧ (j1 ≠ ny) ∧ (k1 = nz))) (_ : ¬ ((i1 = nx) ∧ (j1 = ny) ∧ (k1 ≠ nz))) (_ : ¬ ((i1 = nx) ∧ (j1 ≠ ny) ∧ (k1 = nz))) (_ : ¬ ((i1 ≠ nx) ∧ (j1 = ny) ∧ (k1 = nz))) (_ : ¬ ((i1 = nx) ∧ (j1 = ny) ∧ (k1 = nz))) :
    (0 ≤ i2 ∧ i2 < (nx + 1)) ∧ (0 ≤ j1 ∧ j1 < (ny + 1)) ∧ (0 ≤ k1 ∧ k1 < (nz + 1)) := ⟨by lia, Idx.node, Idx.node⟩

theorem interp3d_interp3d_L157c15_ctx0 (i1 i2 j1 j2 k1 k2 nx ny nz : Int) (_ : 1 ≤ nx) (_ : 0 ≤ i1) (_ : i1 ≤ nx) (_ : i2 = i1 + 1) (_ : 1 ≤ ny) (_ : 0 ≤ j1) (_ : j1 ≤ ny) (_ : j2 = j1 + 1) (_ : 1 ≤ nz) (_ : 0 ≤ k1) (_ : k1 ≤ nz) (_ : k2 = k1 + 1) (_ : i2 = (i1 + 1)) (_ : j2 = (j1 + 1)) (_ : k2 = (k1 + 1)) (_ : ¬ ((i1 = nx) ∧ (j1 ≠ ny) ∧ (k1 ≠ nz))) (_ : ¬ ((i1 ≠ nx) ∧ (j1 = ny) ∧ (k1 ≠ nz))) (_ : ¬ ((i1 ≠ nx) ∧ (j1 ≠ ny) ∧ (k1 = nz))) (_ : ¬ ((i1 = nx) ∧ (j1 = ny) ∧ (k1 ≠ nz))) (_ : ¬ ((i1 = nx) ∧ (j1 ≠ ny) ∧ (k1 = nz))) (_ : ¬ ((i1 ≠ nx) ∧ (j1 = ny) ∧ (k1 = nz))) (_ : ¬ ((i1 = nx) ∧ (j1 = ny) ∧ (k1 = nz))) :
    (0 ≤ i1 ∧ i1 < (nx + 1)) ∧ (0 ≤ j2 ∧ j2 < (ny + 1)) ∧ (0 ≤ k1 ∧ k1 < (nz + 1)) := ⟨Idx.node, by lia, Idx.node⟩

theorem interp3d_interp3d_L158c15_ctx0 (i1 i2 j1 j2 k1 k2 nx ny nz : Int) (_ : 1 ≤ nx) (_ : 0 ≤ i1) (_ : i1 ≤ nx) (_ : i2 = i1 + 1) (_ : 1 ≤ ny) (_ : 0 ≤ j1) (_ : j1 ≤ ny) (_ : j2 = j1 + 1) (_ : 1 ≤ nz) (_ : 0 ≤ k1) (_ : k1 ≤ nz) (_ : k2 = k1 + 1) (_ : i2 = (i1 + 1)) (_ : j2 = (j1 + 1)) (_ : k2 = (k1 + 1)) (_ : ¬ ((i1 = nx) ∧ (j1 ≠ ny) ∧ (k1 ≠ nz))) (_ : ¬ ((i1 ≠ nx) ∧ (j1 = ny) ∧ (k1 ≠ nz))) (_ : ¬ ((i1 ≠ nx) ∧ (j1 ≠ ny) ∧ (k1 = nz))) (_ : ¬ ((i1 = nx) ∧ (j1 = ny) ∧ (k1 ≠ nz))) (_ : ¬ ((i1 = nx) ∧ (j1 ≠ ny) ∧ (k1 = nz))) (_ : ¬ ((i1 ≠ nx) ∧ (j1 = ny) ∧ (k1 = nz))) (_ : ¬ ((i1 = nx) ∧ (j1 = ny) ∧ (k1 = nz))) :
    (0 ≤ i2 ∧ i2 < (nx + 1)) ∧ (0 ≤ j2 ∧ j2 < (ny + 1)) ∧ (0 ≤ k1 ∧ k1 < (nz + 1)) := ⟨by lia, by lia, Idx.node⟩

theorem interp3d_interp3d_L159c15_ctx0 (i1 i2 j1 j2 k1 k2 nx ny nz : Int) (_ : 1 ≤ nx) (_ : 0 ≤ i1) (_ : i1 ≤ nx) (_ : i2 = i1 + 1) (_ : 1 ≤ ny) (_ : 0 ≤ j1) (_ : j1 ≤ ny) (_ : j2 = j1 + 1) (_ : 1 ≤ nz) (_ : 0 ≤ k1) (_ : k1 ≤ nz) (_ : k2 = k1 + 1) (_ : i2 = (i1 + 1)) (_ : j2 = (j1 + 1)) (_ : k2 = (k1 + 1)) (_ : ¬ ((i1 = nx) ∧ (j1 ≠ ny) ∧ (k1 ≠ nz))) (_ : ¬ ((i1 ≠ nx) ∧ (j1 = ny) ∧ (k1 ≠ nz))) (_ : ¬ ((i1 ≠ nx) ∧ (j1 ≠ ny) ∧ (k1 = nz))) (_ : ¬ ((i1 = nx) ∧ (j1 = ny) ∧ (k1 ≠ nz))) (_ : ¬ ((i1 = nx) ∧ (j1 ≠ ny) ∧ (k1 = nz))) (_ : ¬ ((i1 ≠ nx) ∧ (j1 = ny) ∧ (k1 = nz))) (_ : ¬ ((i1 = nx) ∧ (j1 = ny) ∧ (k1 = nz))) :
    (0 ≤ i1 ∧ i1 < (nx + 1)) ∧ (0 ≤ j1 ∧ j1 < (ny + 1)) ∧ (0 ≤ k2 ∧ k2 < (nz + 1)) := ⟨Idx.node, Idx.node, by lia⟩

theorem interp3d_interp3d_L160c15_ctx0 (i1 i2 j1 j2 k1 k2 nx ny nz : Int) (_ : 1 ≤ nx) (_ : 0 ≤ i1) (_ : i1 ≤ nx) (_ : i2 = i1 + 1) (_ : 1 ≤ ny) (_ : 0 ≤ j1) (_ : j1 ≤ ny) (_ : j2 = j1 + 1) (_ : 1 ≤ nz) (_ : 0 ≤ k1) (_ : k1 ≤ nz) (_ : k2 = k1 + 1) (_ : i2 = (i1 + 1)) (_ : j2 = (j1 + 1)) (_ : k2 = (k1 + 1)) (_ : ¬ ((i1 = nx) ∧ (j1 ≠ ny) ∧ (k1 ≠ nz))) (_ : ¬ ((i1 ≠ nx) ∧ (j1 = ny) ∧ (k1 ≠ nz))) (_ : ¬ ((i1 ≠ nx) ∧ (j1 ≠ ny) ∧ (k1 = nz))) (_ : ¬ ((i1 = nx) ∧ (j1 = ny) ∧ (k1 ≠ nz))) (_ : ¬ ((i1 = nx) ∧ (j1 ≠ ny) ∧ (k1 = nz))) (_ : ¬ ((i1 ≠ nx) ∧ (j1 = ny) ∧ (k1 = nz))) (_ : ¬ ((i1 = nx) ∧ (j1 = ny) ∧ (k1 = nz))) :
    (0 ≤ i2 ∧ i2 < (nx + 1)) ∧ (0 ≤ j1 ∧ j1 < (ny + 1)) ∧ (0 ≤ k2 ∧ k2 < (nz + 1)) := ⟨by lia, Idx.node, by lia⟩

theorem interp3d_interp3d_L161c15_ctx0 (i1 i2 j1 j2 k1 k2 nx ny nz : Int) (_ : 1 ≤ nx) (_ : 0 ≤ i1) (_ : i1 ≤ nx) (_ : i2 = i1 + 1) (_ : 1 ≤ ny) (_ : 0 ≤ j1) (_ : j1 ≤ ny) (_ : j2 = j1 + 1) (_ : 1 ≤ nz) (_ : 0 ≤ k1) (_ : k1 ≤ nz) (_ : k2 = k1 + 1) (_ : i2 = (i1 + 1)) (_ : j2 = (j1 + 1)) (_ : k2 = (k1 + 1)) (_ : ¬ ((i1 = nx) ∧ (j1 ≠ ny) ∧ (k1 ≠ nz))) (_ : ¬ ((i1 ≠ nx) ∧ (j1 = ny) ∧ (k1 ≠ nz))) (_ : ¬ ((i1 ≠ nx) ∧ (j1 ≠ ny) ∧ (k1 = nz))) (_ : ¬ ((i1 = nx) ∧ (j1 = ny) ∧ (k1 ≠ nz))) (_ : ¬ ((i1 = nx) ∧ (j1 ≠ ny) ∧ (k1 = nz))) (_ : ¬ ((i1 ≠ nx) ∧ (j1 = ny) ∧ (k1 = nz))) (_ : ¬ ((i1 = nx) ∧ (j1 = ny) ∧ (k1 = nz))) :
    (0 ≤ i1 ∧ i1 < (nx + 1)) ∧ (0 ≤ j2 ∧ j2 < (ny + 1)) ∧ (0 ≤ k2 ∧ k2 < (nz + 1)) := ⟨Idx.node, by lia, by lia⟩

theorem interp3d_interp3d_L162c15_ctx0 (i1 i2 j1 j2 k1 k2 nx ny nz : Int) (_ : 1 ≤ nx) (_ : 0 ≤ i1) (_ : i1 ≤ nx) (_ : i2 = i1 + 1) (_ : 1 ≤ ny) (_ : 0 ≤ j1) (_ : j1 ≤ ny) (_ : j2 = j1 + 1) (_ : 1 ≤ nz) (_ : 0 ≤ k1) (_ : k1 ≤ nz) (_ : k2 = k1 + 1) (_ : i2 = (i1 + 1)) (_ : j2 = (j1 + 1)) (_ : k2 = (k1 + 1)) (_ : ¬ ((i1 = nx) ∧ (j1 ≠ ny) ∧ (k1 ≠ nz))) (_ : ¬ ((i1 ≠ nx) ∧ (j1 = ny) ∧ (k1 ≠ nz))) (_ : ¬ ((i1 ≠ nx) ∧ (j1 ≠ ny) ∧ (k1 = nz))) (_ : ¬ ((i1 = nx) ∧ (j1 = ny) ∧ (k1 ≠ nz))) (_ : ¬ ((i1 = nx) ∧ (j1 ≠ ny) ∧ (k1 = nz))) (_ : ¬ ((i1 ≠ nx) ∧ (j1 = ny) ∧ (k1 = nz))) (_ : ¬ ((i1 = nx) ∧ (j1 = ny) ∧ (k1 = nz))) :
    (0 ≤ i2 ∧ i2 < (nx + 1)) ∧ (0 ≤ j2 ∧ j2 < (ny + 1)) ∧ (0 ≤ k2 ∧ k2 < (nz + 1)) := by lia

theorem vinterp3d_vinterp3d_L13c12_ctx0 (i1 i2 j1 j2 k1 k2 nx ny nz : Int) (_ : 1 ≤ nx) (_ : 0 ≤ i1) (_ : i1 ≤ nx) (_ : i2 = i1 + 1) (_ : 1 ≤ ny) (_ : 0 ≤ j1) (_ : j1 ≤ ny) (_ : j2 = j1 + 1) (_ : 1 ≤ nz) (_ : 0 ≤ k1) (_ : k1 ≤ nz) (_ : k2 = k1 + 1) :
    (0 ≤ 0 ∧ 0 < (nx + 1)) := Idx.first

theorem vinterp3d_vinterp3d_L13c26_ctx0 (i1 i2 j1 j2 k1 k2 nx ny nz : Int) (_ : 1 ≤ nx) (_ : 0 ≤ i1) (_ : i1 ≤ nx) (_ : i2 = i1 + 1) (_ : 1 ≤ ny) (_ : 0 ≤ j1) (_ : j1 ≤ ny) (_ : j2 = j1 + 1) (_ : 1 ≤ nz) (_ : 0 ≤ k1) (_ : k1 ≤ nz) (_ : k2 = k1 + 1) :
    (1 ≤ (nx + 1)) := Idx.last

theorem vinterp3d_vinterp3d_L14c12_ctx0 (i1 i2 j1 j2 k1 k2 nx ny nz : Int) (_ : 1 ≤ nx) (_ : 0 ≤ i1) (_ : i1 ≤ nx) (_ : i2 = i1 + 1) (_ : 1 ≤ ny) (_ : 0 ≤ j1) (_ : j1 ≤ ny) (_ : j2 = j1 + 1) (_ : 1 ≤ nz) (_ : 0 ≤ k1) (_ : k1 ≤ nz) (_ : k2 = k1 + 1) :
    (0 ≤ 0 ∧ 0 < (ny + 1)) := Idx.first

theorem vinterp3d_vinterp3d_L14c26_ctx0 (i1 i2 j1 j2 k1 k2 nx ny nz : Int) (_ : 1 ≤ nx) (_ : 0 ≤ i1) (_ : i1 ≤ nx) (_ : i2 = i1 + 1) (_ : 1 ≤ ny) (_ : 0 ≤ j1) (_ : j1 ≤ ny) (_ : j2 = j1 + 1) (_ : 1 ≤ nz) (_ : 0 ≤ k1) (_ : k1 ≤ nz) (_ : k2 = k1 + 1) :
    (1 ≤ (ny + 1)) := Idx.last

theorem vinterp3d_vinterp3d_L15c12_ctx0 (i1 i2 j1 j2 k1 k2 nx ny nz : Int) (_ : 1 ≤ nx) (_ : 0 ≤ i1) (_ : i1 ≤ nx) (_ : i2 = i1 + 1) (_ : 1 ≤ ny) (_ : 0 ≤ j1) (_ : j1 ≤ ny) (_ : j2 = j1 + 1) (_ : 1 ≤ nz) (_ : 0 ≤ k1) (_ : k1 ≤ nz) (_ : k2 = k1 + 1) :
    (0 ≤ 0 ∧ 0 < (nz + 1)) := Idx.first

theorem vinterp3d_vinterp3d_L15c26_ctx0 (i1 i2 j1 j2 k1 k2 nx ny nz : Int) (_ : 1 ≤ nx) (_ : 0 ≤ i1) (_ : i1 ≤ nx) (_ : i2 = i1 + 1) (_ : 1 ≤ ny) (_ : 0 ≤ j1) (_ : j1 ≤ ny) (_ : j2 = j1 + 1) (_ : 1 ≤ nz) (_ : 0 ≤ k1) (_ : k1 ≤ nz) (_ : k2 = k1 + 1) :
    (1 ≤ (nz + 1)) := Idx.last

theorem vinterp3d_vinterp3d_L39c17_ctx0 (i1 i2 j1 j2 k1 k2 nx ny nz xsi ysi zsi : Int) (_ : 1 ≤ nx) (_ : 0 ≤ i1) (_ : i1 ≤ nx) (_ : i2 = i1 + 1) (_ : 1 ≤ ny) (_ : 0 ≤ j1) (_ : j1 ≤ ny) (_ : j2 = j1 + 1) (_ : 1 ≤ nz) (_ : 0 ≤ k1) (_ : k1 ≤ nz) (_ : k2 = k1 + 1) (_ : ¬ ((xsi = i1) ∧ (ysi = j1) ∧ (zsi = k1))) (_ : i2 = (i1 + 1)) (_ : j2 = (j1 + 1)) (_ : k2 = (k1 + 1)) (_ : (i1 = nx) ∧ (j1 ≠ ny) ∧ (k1 ≠ nz)) :
    (0 ≤ i1 ∧ i1 < (nx + 1)) := Idx.node

theorem vinterp3d_vinterp3d_L40c28_ctx0 (i1 i2 j1 j2 k1 k2 nx ny nz xsi ysi zsi : Int) (_ : 1 ≤ nx) (_ : 0 ≤ i1) (_ : i1 ≤ nx) (_ : i2 = i1 + 1) (_ : 1 ≤ ny) (_ : 0 ≤ j1) (_ : j1 ≤ ny) (_ : j2 = j1 + 1) (_ : 1 ≤ nz) (_ : 0 ≤ k1) (_ : k1 ≤ nz) (_ : k2 = k1 + 1) (_ : ¬ ((xsi = i1) ∧ (ysi = j1) ∧ (zsi = k1))) (_ : i2 = (i1 + 1)) (_ : j2 = (j1 + 1)) (_ : k2 = (k1 + 1)) (_ : (i1 = nx) ∧ (j1 ≠ ny) ∧ (k1 ≠ nz)) :
    (2 ≤ (nx + 1)) := Idx.lastButOne

theorem vinterp3d_vinterp3d_L41c17_ctx0 (i1 i2 j1 j2 k1 k2 nx ny nz xsi ysi zsi : Int) (_ : 1 ≤ nx) (_ : 0 ≤ i1) (_ : i1 ≤ nx) (_ : i2 = i1 + 1) (_ : 1 ≤ ny) (_ : 0 ≤ j1) (_ : j1 ≤ ny) (_ : j2 = j1 + 1) (_ : 1 ≤ nz) (_ : 0 ≤ k1) (_ : k1 ≤ nz) (_ : k2 = k1 + 1) (_ : ¬ ((xsi = i1) ∧ (ysi = j1) ∧ (zsi = k1))) (_ : i2 = (i1 + 1)) (_ : j2 = (j1 + 1)) (_ : k2 = (k1 + 1)) (_ : (i1 = nx) ∧ (j1 ≠ ny) ∧ (k1 ≠ nz)) :
    (0 ≤ j1 ∧ j1 < (ny + 1)) := Idx.node

theorem vinterp3d_vinterp3d_L42c17_ctx0 (i1 i2 j1 j2 k1 k2 nx ny nz xsi ysi zsi : Int) (_ : 1 ≤ nx) (_ : 0 ≤ i1) (_ : i1 ≤ nx) (_ : i2 = i1 + 1) (_ : 1 ≤ ny) (_ : 0 ≤ j1) (_ : j1 ≤ ny) (_ : j2 = j1 + 1) (_ : 1 ≤ nz) (_ : 0 ≤ k1) (_ : k1 ≤ nz) (_ : k2 = k1 + 1) (_ : ¬ ((xsi = i1) ∧ (ysi = j1) ∧ (zsi = k1))) (_ : i2 = (i1 + 1)) (_ : j2 = (j1 + 1)) (_ : k2 = (k1 + 1)) (_ : (i1 = nx) ∧ (j1 ≠ ny) ∧ (k1 ≠ nz)) :
    (0 ≤ j2 ∧ j2 < (ny + 1)) := by lia

theorem vinterp3d_vinterp3d_L43c17_ctx0 (i1 i2 j1 j2 k1 k2 nx ny nz xsi ysi zsi : Int) (_ : 1 ≤ nx) (_ : 0 ≤ i1) (_ : i1 ≤ nx) (_ : i2 = i1 + 1) (_ : 1 ≤ ny) (_ : 0 ≤ j1) (_ : j1 ≤ ny) (_ : j2 = j1 + 1) (_ : 1 ≤ nz) (_ : 0 ≤ k1) (_ : k1 ≤ nz) (_ : k2 = k1 + 1) (_ : ¬ ((xsi = i1) ∧ (ysi = j1) ∧ (zsi = k1))) (_ : i2 = (i1 + 1)) (_ : j2 = (j1 + 1)) (_ : k2 = (k1 + 1)) (_ : (i1 = nx) ∧ (j1 ≠ ny) ∧ (k1 ≠ nz)) :
    (0 ≤ k1 ∧ k1 < (nz + 1)) := Idx.node

theorem vinterp3d_vinterp3d_L44c17_ctx0 (i1 i2 j1 j2 k1 k2 nx ny nz xsi ysi zsi : Int) (_ : 1 ≤ nx) (_ : 0 ≤ i1) (_ : i1 ≤ nx) (_ : i2 = i1 + 1) (_ : 1 ≤ ny) (_ : 0 ≤ j1) (_ : j1 ≤ ny) (_ : j2 = j1 + 1) (_ : 1 ≤ nz) (_ : 0 ≤ k1) (_ : k1 ≤ nz) (_ : k2 = k1 + 1) (_ : ¬ ((xsi = i1) ∧ (ysi = j1) ∧ (zsi = k1))) (_ : i2 = (i1 + 1)) (_ : j2 = (j1 + 1)) (_ : k2 = (k1 + 1)) (_ : (i1 = nx) ∧ (j1 ≠ ny) ∧ (k1 ≠ nz)) :
    (0 ≤ k2 ∧ k2 < (nz + 1)) := by lia

theorem vinterp3d_vinterp3d_L55c19_ctx0 (i1 i2 j1 j2 k1 k2 nx ny nz xsi ysi zsi : Int) (_ : 1 ≤ nx) (_ : 0 ≤ i1) (_ : i1 ≤ nx) (_ : i2 = i1 + 1) (_ : 1 ≤ ny) (_ : 0 ≤ j1) (_ : j1 ≤ ny) (_ : j2 = j1 + 1) (_ : 1 ≤ nz) (_ : 0 ≤ k1) (_ : k1 ≤ nz) (_ : k2 = k1 + 1) (_ : ¬ ((xsi = i1) ∧ (ysi = j1) ∧ (zsi = k1))) (_ : i2 = (i1 + 1)) (_ : j2 = (j1 + 1)) (_ : k2 = (k1 + 1)) (_ : (i1 = nx) ∧ (j1 ≠ ny) ∧ (k1 ≠ nz)) :
    (0 ≤ i1 ∧ i1 < (nx + 1)) ∧ (0 ≤ j1 ∧ j1 < (ny + 1)) ∧ (0 ≤ k1 ∧ k1 < (nz + 1)) := ⟨Idx.node, Idx.node, Idx.node⟩

theorem vinterp3d_vinterp3d_L57c19_ctx0 (i1 i2 j1 j2 k1 k2 nx ny nz xsi ysi zsi : Int) (_ : 1 ≤ nx) (_ : 0 ≤ i1) (_ : i1 ≤ nx) (_ : i2 = i1 + 1) (_ : 1 ≤ ny) (_ : 0 ≤ j1) (_ : j1 ≤ ny) (_ : j2 = j1 + 1) (_ : 1 ≤ nz) (_ : 0 ≤ k1) (_ : k1 ≤ nz) (_ : k2 = k1 + 1) (_ : ¬ ((xsi = i1) ∧ (ysi = j1) ∧ (zsi = k1))) (_ : i2 = (i1 + 1)) (_ : j2 = (j1 + 1)) (_ : k2 = (k1 + 1)) (_ : (i1 = nx) ∧ (j1 ≠ ny) ∧ (k1 ≠ nz)) :
    (0 ≤ i1 ∧ i1 < (nx + 1)) ∧ (0 ≤ j2 ∧ j2 < (ny + 1)) ∧ (0 ≤ k1 ∧ k1 < (nz + 1)) := ⟨Idx.node, by lia, Idx.node⟩

theorem vinterp3d_vinterp3d_L59c19_ctx0 (i1 i2 j1 j2 k1 k2 nx ny nz xsi ysi zsi : Int) (_ : 1 ≤ nx) (_ : 0 ≤ i1) (_ : i1 ≤ nx) (_ : i2 = i1 + 1) (_ : 1 ≤ ny) (_ : 0 ≤ j1) (_ : j1 ≤ ny) (_ : j2 = j1 + 1) (_ : 1 ≤ nz) (_ : 0 ≤ k1) (_ : k1 ≤ nz) (_ : k2 = k1 + 1) (_ : ¬ ((xsi = i1) ∧ (ysi = j1) ∧ (zsi = k1))) (_ : i2 = (i1 + 1)) (_ : j2 = (j1 + 1)) (_ : k2 = (k1 + 1)) (_ : (i1 = nx) ∧ (j1 ≠ ny) ∧ (k1 ≠ nz)) :
    (0 ≤ i1 ∧ i1 < (nx + 1)) ∧ (0 ≤ j1 ∧ j1 < (ny + 1)) ∧ (0 ≤ k2 ∧ k2 < (nz + 1)) := ⟨Idx.node, Idx.node, by lia⟩

theorem vinterp3d_vinterp3d_L61c19_ctx0 (i1 i2 j1 j2 k1 k2 nx ny nz xsi ysi zsi : Int) (_ : 1 ≤ nx) (_ : 0 ≤ i1) (_ : i1 ≤ nx) (_ : i2 = i1 + 1) (_ : 1 ≤ ny) (_ : 0 ≤ j1) (_ : j1 ≤ ny) (_ : j2 = j1 + 1) (_ : 1 ≤ nz) (_ : 0 ≤ k1) (_ : k1 ≤ nz) (_ : k2 = k1 + 1) (_ : ¬ ((xsi = i1) ∧ (ysi = j1) ∧ (zsi = k1))) (_ : i2 = (i1 + 1)) (_ : j2 = (j1 + 1)) (_ : k2 = (k1 + 1)) (_ : (i1 = nx) ∧ (j1 ≠ ny) ∧ (k1 ≠ nz)) :
    (0 ≤ i1 ∧ i1 < (nx + 1)) ∧ (0 ≤ j2 ∧ j2 < (ny + 1)) ∧ (0 ≤ k2 ∧ k2 < (nz + 1)) := ⟨Idx.node, by lia, by lia⟩

theorem vinterp3d_vinterp3d_L65c17_ctx0 (i1 i2 j1 j2 k1 k2 nx ny nz xsi ysi zsi : Int) (_ : 1 ≤ nx) (_ : 0 ≤ i1) (_ : i1 ≤ nx) (_ : i2 = i1 + 1) (_ : 1 ≤ ny) (_ : 0 ≤ j1) (_ : j1 ≤ ny) (_ : j2 = j1 + 1) (_ : 1 ≤ nz) (_ : 0 ≤ k1) (_ : k1 ≤ nz) (_ : k2 = k1 + 1) (_ : ¬ ((xsi = i1) ∧ (ysi = j1) ∧ (zsi = k1))) (_ : i2 = (i1 + 1)) (_ : j2 = (j1 + 1)) (_ : k2 = (k1 + 1)) (_ : ¬ ((i1 = nx) ∧ (j1 ≠ ny) ∧ (k1 ≠ nz))) (_ : (i1 ≠ nx) ∧ (j1 = ny) ∧ (k1 ≠ nz)) :
    (0 ≤ i1 ∧ i1 < (nx + 1)) := Idx.node

theorem vinterp3d_vinterp3d_L66c17_ctx0 (i1 i2 j1 j2 k1 k2 nx ny nz xsi ysi zsi : Int) (_ : 1 ≤ nx) (_ : 0 ≤ i1) (_ : i1 ≤ nx) (_ : i2 = i1 + 1) (_ : 1 ≤ ny) (_ : 0 ≤ j1) (_ : j1 ≤ ny) (_ : j2 = j1 + 1) (_ : 1 ≤ nz) (_ : 0 ≤ k1) (_ : k1 ≤ nz) (_ : k2 = k1 + 1) (_ : ¬ ((xsi = i1) ∧ (ysi = j1) ∧ (zsi = k1))) (_ : i2 = (i1 + 1)) (_ : j2 = (j1 + 1)) (_ : k2 = (k1 + 1)) (_ : ¬ ((i1 = nx) ∧ (j1 ≠ ny) ∧ (k1 ≠ nz))) (_ : (i1 ≠ nx) ∧ (j1 = ny) ∧ (k1 ≠ nz)) :
    (0 ≤ i2 ∧ i2 < (nx + 1)) := by lia

theorem vinterp3d_vinterp3d_L67c17_ctx0 (i1 i2 j1 j2 k1 k2 nx ny nz xsi ysi zsi : Int) (_ : 1 ≤ nx) (_ : 0 ≤ i1) (_ : i1 ≤ nx) (_ : i2 = i1 + 1) (_ : 1 ≤ ny) (_ : 0 ≤ j1) (_ : j1 ≤ ny) (_ : j2 = j1 + 1) (_ : 1 ≤ nz) (_ : 0 ≤ k1) (_ : k1 ≤ nz) (_ : k2 = k1 + 1) (_ : ¬ ((xsi = i1) ∧ (ysi = j1) ∧ (zsi = k1))) (_ : i2 = (i1 + 1)) (_ : j2 = (j1 + 1)) (_ : k2 = (k1 + 1)) (_ : ¬ ((i1 = nx) ∧ (j1 ≠ ny) ∧ (k1 ≠ nz))) (_ : (i1 ≠ nx) ∧ (j1 = ny) ∧ (k1 ≠ nz)) :
    (0 ≤ j1 ∧ j1 < (ny + 1)) := Idx.node

theorem vinterp3d_vinterp3d_L68c28_ctx0 (i1 i2 j1 j2 k1 k2 nx ny nz xsi ysi zsi : Int) (_ : 1 ≤ nx) (_ : 0 ≤ i1) (_ : i1 ≤ nx) (_ : i2 = i1 + 1) (_ : 1 ≤ ny) (_ : 0 ≤ j1) (_ : j1 ≤ ny) (_ : j2 = j1 + 1) (_ : 1 ≤ nz) (_ : 0 ≤ k1) (_ : k1 ≤ nz) (_ : k2 = k1 + 1) (_ : ¬ ((xsi = i1) ∧ (ysi = j1) ∧ (zsi = k1))) (_ : i2 = (i1 + 1)) (_ : j2 = (j1 + 1)) (_ : k2 = (k1 + 1)) (_ : ¬ ((i1 = nx) ∧ (j1 ≠ ny) ∧ (k1 ≠ nz))) (_ : (i1 ≠ nx) ∧ (j1 = ny) ∧ (k1 ≠ nz)) :
    (2 ≤ (ny + 1)) := Idx.lastButOne

theorem vinterp3d_vinterp3d_L69c17_ctx0 (i1 i2 j1 j2 k1 k2 nx ny nz xsi ysi zsi : Int) (_ : 1 ≤ nx) (_ : 0 ≤ i1) (_ : i1 ≤ nx) (_ : i2 = i1 + 1) (_ : 1 ≤ ny) (_ : 0 ≤ j1) (_ : j1 ≤ ny) (_ : j2 = j1 + 1) (_ : 1 ≤ nz) (_ : 0 ≤ k1) (_ : k1 ≤ nz) (_ : k2 = k1 + 1) (_ : ¬ ((xsi = i1) ∧ (ysi = j1) ∧ (zsi = k1))) (_ : i2 = (i1 + 1)) (_ : j2 = (j1 + 1)) (_ : k2 = (k1 + 1)) (_ : ¬ ((i1 = nx) ∧ (j1 ≠ ny) ∧ (k1 ≠ nz))) (_ : (i1 ≠ nx) ∧ (j1 = ny) ∧ (k1 ≠ nz)) :
    (0 ≤ k1 ∧ k1 < (nz + 1)) := Idx.node

theorem vinterp3d_vinterp3d_L70c17_ctx0 (i1 i2 j1 j2 k1 k2 nx ny nz xsi ysi zsi : Int) (_ : 1 ≤ nx) (_ : 0 ≤ i1) (_ : i1 ≤ nx) (_ : i2 = i1 + 1) (_ : 1 ≤ ny) (_ : 0 ≤ j1) (_ : j1 ≤ ny) (_ : j2 = j1 + 1) (_ : 1 ≤ nz) (_ : 0 ≤ k1) (_ : k1 ≤ nz) (_ : k2 = k1 + 1) (_ : ¬ ((xsi = i1) ∧ (ysi = j1) ∧ (zsi = k1))) (_ : i2 = (i1 + 1)) (_ : j2 = (j1 + 1)) (_ : k2 = (k1 + 1)) (_ : ¬ ((i1 = nx) ∧ (j1 ≠ ny) ∧ (k1 ≠ nz))) (_ : (i1 ≠ nx) ∧ (j1 = ny) ∧ (k1 ≠ nz)) :
    (0 ≤ k2 ∧ k2 < (nz + 1)) := by lia

theorem vinterp3d_vinterp3d_L81c19_ctx0 (i1 i2 j1 j2 k1 k2 nx ny nz xsi ysi zsi : Int) (_ : 1 ≤ nx) (_ : 0 ≤ i1) (_ : i1 ≤ nx) (_ : i2 = i1 + 1) (_ : 1 ≤ ny) (_ : 0 ≤ j1) (_ : j1 ≤ ny) (_ : j2 = j1 + 1) (_ : 1 ≤ nz) (_ : 0 ≤ k1) (_ : k1 ≤ nz) (_ : k2 = k1 + 1) (_ : ¬ ((xsi = i1) ∧ (ysi = j1) ∧ (zsi = k1))) (_ : i2 = (i1 + 1)) (_ : j2 = (j1 + 1)) (_ : k2 = (k1 + 1)) (_ : ¬ ((i1 = nx) ∧ (j1 ≠ ny) ∧ (k1 ≠ nz))) (_ : (i1 ≠ nx) ∧ (j1 = ny) ∧ (k1 ≠ nz)) :
    (0 ≤ i1 ∧ i1 < (nx + 1)) ∧ (0 ≤ j1 ∧ j1 < (ny + 1)) ∧ (0 ≤ k1 ∧ k1 < (nz + 1)) := ⟨Idx.node, Idx.node, Idx.node⟩

theorem vinterp3d_vinterp3d_L82c19_ctx0 (i1 i2 j1 j2 k1 k2 nx ny nz xsi ysi zsi : Int) (_ : 1 ≤ nx) (_ : 0 ≤ i1) (_ : i1 ≤ nx) (_ : i2 = i1 + 1) (_ : 1 ≤ ny) (_ : 0 ≤ j1) (_ : j1 ≤ ny) (_ : j2 = j1 + 1) (_ : 1 ≤ nz) (_ : 0 ≤ k1) (_ : k1 ≤ nz) (_ : k2 = k1 + 1) (_ : ¬ ((xsi = i1) ∧ (ysi = j1) ∧ (zsi = k1))) (_ : i2 = (i1 + 1)) (_ : j2 = (j1 + 1)) (_ : k2 = (k1 + 1)) (_ : ¬ ((i1 = nx) ∧ (j1 ≠ ny) ∧ (k1 ≠ nz))) (_ : (i1 ≠ nx) ∧ (j1 = ny) ∧ (k1 ≠ nz)) :
    (0 ≤ i2 ∧ i2 < (nx + 1)) ∧ (0 ≤ j1 ∧ j1 < (ny + 1)) ∧ (0 ≤ k1 ∧ k1 < (nz + 1)) := ⟨by lia, Idx.node, Idx.node⟩

theorem vinterp3d_vinterp3d_L85c19_ctx0 (i1 i2 j1 j2 k1 k2 nx ny nz xsi ysi zsi : Int) (_ : 1 ≤ nx) (_ : 0 ≤ i1) (_ : i1 ≤ nx) (_ : i2 = i1 + 1) (_ : 1 ≤ ny) (_ : 0 ≤ j1) (_ : j1 ≤ ny) (_ : j2 = j1 + 1) (_ : 1 ≤ nz) (_ : 0 ≤ k1) (_ : k1 ≤ nz) (_ : k2 = k1 + 1) (_ : ¬ ((xsi = i1) ∧ (ysi = j1) ∧ (zsi = k1))) (_ : i2 = (i1 + 1)) (_ : j2 = (j1 + 1)) (_ : k2 = (k1 + 1)) (_ : ¬ ((i1 = nx) ∧ (j1 ≠ ny) ∧ (k1 ≠ nz))) (_ : (i1 ≠ nx) ∧ (j1 = ny) ∧ (k1 ≠ nz)) :
    (0 ≤ i1 ∧ i1 < (nx + 1)) ∧ (0 ≤ j1 ∧ j1 < (ny + 1)) ∧ (0 ≤ k2 ∧ k2 < (nz + 1)) := ⟨Idx.node, Idx.node, by lia⟩

theorem vinterp3d_vinterp3d_L86c19_ctx0 (i1 i2 j1 j2 k1 k2 nx ny nz xsi ysi zsi : Int) (_ : 1 ≤ nx) (_ : 0 ≤ i1) (_ : i1 ≤ nx) (_ : i2 = i1 + 1) (_ : 1 ≤ ny) (_ : 0 ≤ j1) (_ : j1 ≤ ny) (_ : j2 = j1 + 1) (_ : 1 ≤ nz) (_ : 0 ≤ k1) (_ : k1 ≤ nz) (_ : k2 = k1 + 1) (_ : ¬ ((xsi = i1) ∧ (ysi = j1) ∧ (zsi = k1))) (_ : i2 = (i1 + 1)) (_ : j2 = (j1 + 1)) (_ : k2 = (k1 + 1)) (_ : ¬ ((i1 = nx) ∧ (j1 ≠ ny) ∧ (k1 ≠ nz))) (_ : (i1 ≠ nx) ∧ (j1 = ny) ∧ (k1 ≠ nz)) :
    (0 ≤ i2 ∧ i2 < (nx + 1)) ∧ (0 ≤ j1 ∧ j1 < (ny + 1)) ∧ (0 ≤ k2 ∧ k2 < (nz + 1)) := ⟨by lia, Idx.node, by lia⟩

theorem vinterp3d_vinterp3d_L91c17_ctx0 (i1 i2 j1 j2 k1 k2 nx ny nz xsi ysi zsi : Int) (_ : 1 ≤ nx) (_ : 0 ≤ i1) (_ : i1 ≤ nx) (_ : i2 = i1 + 1) (_ : 1 ≤ ny) (_ : 0 ≤ j1) (_ : j1 ≤ ny) (_ : j2 = j1 + 1) (_ : 1 ≤ nz) (_ : 0 ≤ k1) (_ : k1 ≤ nz) (_ : k2 = k1 + 1) (_ : ¬ ((xsi = i1) ∧ (ysi = j1) ∧ (zsi = k1))) (_ : i2 = (i1 + 1)) (_ : j2 = (j1 + 1)) (_ : k2 = (k1 + 1)) (_ : ¬ ((i1 = nx) ∧ (j1 ≠ ny) ∧ (k1 ≠ nz))) (_ : ¬ ((i1 ≠ nx) ∧ (j1 = ny) ∧ (k1 ≠ nz))) (_ : (i1 ≠ nx) ∧ (j1 ≠ ny) ∧ (k1 = nz)) :
    (0 ≤ i1 ∧ i1 < (nx + 1)) := Idx.node

theorem vinterp3d_vinterp3d_L92c17_ctx0 (i1 i2 j1 j2 k1 k2 nx ny nz xsi ysi zsi : Int) (_ : 1 ≤ nx) (_ : 0 ≤ i1) (_ : i1 ≤ nx) (_ : i2 = i1 + 1) (_ : 1 ≤ ny) (_ : 0 ≤ j1) (_ : j1 ≤ ny) (_ : j2 = j1 + 1) (_ : 1 ≤ nz) (_ : 0 ≤ k1) (_ : k1 ≤ nz) (_ : k2 = k1 + 1) (_ : ¬ ((xsi = i1) ∧ (ysi = j1) ∧ (zsi = k1))) (_ : i2 = (i1 + 1)) (_ : j2 = (j1 + 1)) (_ : k2 = (k1 + 1)) (_ : ¬ ((i1 = nx) ∧ (j1 ≠ ny) ∧ (k1 ≠ nz))) (_ : ¬ ((i1 ≠ nx) ∧ (j1 = ny) ∧ (k1 ≠ nz))) (_ : (i1 ≠ nx) ∧ (j1 ≠ ny) ∧ (k1 = nz)) :
    (0 ≤ i2 ∧ i2 < (nx + 1)) := by lia

theorem vinterp3d_vinterp3d_L93c17_ctx0 (i1 i2 j1 j2 k1 k2 nx ny nz xsi ysi zsi : Int) (_ : 1 ≤ nx) (_ : 0 ≤ i1) (_ : i1 ≤ nx) (_ : i2 = i1 + 1) (_ : 1 ≤ ny) (_ : 0 ≤ j1) (_ : j1 ≤ ny) (_ : j2 = j1 + 1) (_ : 1 ≤ nz) (_ : 0 ≤ k1) (_ : k1 ≤ nz) (_ : k2 = k1 + 1) (_ : ¬ ((xsi = i1) ∧ (ysi = j1) ∧ (zsi = k1))) (_ : i2 = (i1 + 1)) (_ : j2 = (j1 + 1)) (_ : k2 = (k1 + 1)) (_ : ¬ ((i1 = nx) ∧ (j1 ≠ ny) ∧ (k1 ≠ nz))) (_ : ¬ ((i1 ≠ nx) ∧ (j1 = ny) ∧ (k1 ≠ nz))) (_ : (i1 ≠ nx) ∧ (j1 ≠ ny) ∧ (k1 = nz)) :
    (0 ≤ j1 ∧ j1 < (ny + 1)) := Idx.node

theorem vinterp3d_vinterp3d_L94c17_ctx0 (i1 i2 j1 j2 k1 k2 nx ny nz xsi ysi zsi : Int) (_ : 1 ≤ nx) (_ : 0 ≤ i1) (_ : i1 ≤ nx) (_ : i2 = i1 + 1) (_ : 1 ≤ ny) (_ : 0 ≤ j1) (_ : j1 ≤ ny) (_ : j2 = j1 + 1) (_ : 1 ≤ nz) (_ : 0 ≤ k1) (_ : k1 ≤ nz) (_ : k2 = k1 + 1) (_ : ¬ ((xsi = i1) ∧ (ysi = j1) ∧ (zsi = k1))) (_ : i2 = (i1 + 1)) (_ : j2 = (j1 + 1)) (_ : k2 = (k1 + 1)) (_ : ¬ ((i1 = nx) ∧ (j1 ≠ ny) ∧ (k1 ≠ nz))) (_ : ¬ ((i1 ≠ nx) ∧ (j1 = ny) ∧ (k1 ≠ nz))) (_ : (i1 ≠ nx) ∧ (j1 ≠ ny) ∧ (k1 = nz)) :
    (0 ≤ j2 ∧ j2 < (ny + 1)) := by lia

theorem vinterp3d_vinterp3d_L95c17_ctx0 (i1 i2 j1 j2 k1 k2 nx ny nz xsi ysi zsi : Int) (_ : 1 ≤ nx) (_ : 0 ≤ i1) (_ : i1 ≤ nx) (_ : i2 = i1 + 1) (_ : 1 ≤ ny) (_ : 0 ≤ j1) (_ : j1 ≤ ny) (_ : j2 = j1 + 1) (_ : 1 ≤ nz) (_ : 0 ≤ k1) (_ : k1 ≤ nz) (_ : k2 = k1 + 1) (_ : ¬ ((xsi = i1) ∧ (ysi = j1) ∧ (zsi = k1))) (_ : i2 = (i1 + 1)) (_ : j2 = (j1 + 1)) (_ : k2 = (k1 + 1)) (_ : ¬ ((i1 = nx) ∧ (j1 ≠ ny) ∧ (k1 ≠ nz))) (_ : ¬ ((i1 ≠ nx) ∧ (j1 = ny) ∧ (k1 ≠ nz))) (_ : (i1 ≠ nx) ∧ (j1 ≠ ny) ∧ (k1 = nz)) :
    (0 ≤ k1 ∧ k1 < (nz + 1)) := Idx.node

theorem vinterp3d_vinterp3d_L96c28_ctx0 (i1 i2 j1 j2 k1 k2 nx ny nz xsi ysi zsi : Int) (_ : 1 ≤ nx) (_ : 0 ≤ i1) (_ : i1 ≤ nx) (_ : i2 = i1 + 1) (_ : 1 ≤ ny) (_ : 0 ≤ j1) (_ : j1 ≤ ny) (_ : j2 = j1 + 1) (_ : 1 ≤ nz) (_ : 0 ≤ k1) (_ : k1 ≤ nz) (_ : k2 = k1 + 1) (_ : ¬ ((xsi = i1) ∧ (ysi = j1) ∧ (zsi = k1))) (_ : i2 = (i1 + 1)) (_ : j2 = (j1 + 1)) (_ : k2 = (k1 + 1)) (_ : ¬ ((i1 = nx) ∧ (j1 ≠ ny) ∧ (k1 ≠ nz))) (_ : ¬ ((i1 ≠ nx) ∧ (j1 = ny) ∧ (k1 ≠ nz))) (_ : (i1 ≠ nx) ∧ (j1 ≠ ny) ∧ (k1 = nz)) :
    (2 ≤ (nz + 1)) := Idx.lastButOne

theorem vinterp3d_vinterp3d_L107c19_ctx0 (i1 i2 j1 j2 k1 k2 nx ny nz xsi ysi zsi : Int) (_ : 1 ≤ nx) (_ : 0 ≤ i1) (_ : i1 ≤ nx) (_ : i2 = i1 + 1) (_ : 1 ≤ ny) (_ : 0 ≤ j1) (_ : j1 ≤ ny) (_ : j2 = j1 + 1) (_ : 1 ≤ nz) (_ : 0 ≤ k1) (_ : k1 ≤ nz) (_ : k2 = k1 + 1) (_ : ¬ ((xsi = i1) ∧ (ysi = j1) ∧ (zsi = k1))) (_ : i2 = (i1 + 1)) (_ : j2 = (j1 + 1)) (_ : k2 = (k1 + 1)) (_ : ¬ ((i1 = nx) ∧ (j1 ≠ ny) ∧ (k1 ≠ nz))) (_ : ¬ ((i1 ≠ nx) ∧ (j1 = ny) ∧ (k1 ≠ nz))) (_ : (i1 ≠ nx) ∧ (j1 ≠ ny) ∧ (k1 = nz)) :
    (0 ≤ i1 ∧ i1 < (nx + 1)) ∧ (0 ≤ j1 ∧ j1 < (ny + 1)) ∧ (0 ≤ k1 ∧ k1 < (nz + 1)) := ⟨Idx.node, Idx.node, Idx.node⟩

theorem vinterp3d_vinterp3d_L108c19_ctx0 (i1 i2 j1 j2 k1 k2 nx ny nz xsi ysi zsi : Int) (_ : 1 ≤ nx) (_ : 0 ≤ i1) (_ : i1 ≤ nx) (_ : i2 = i1 + 1) (_ : 1 ≤ ny) (_ : 0 ≤ j1) (_ : j1 ≤ ny) (_ : j2 = j1 + 1) (_ : 1 ≤ nz) (_ : 0 ≤ k1) (_ : k1 ≤ nz) (_ : k2 = k1 + 1) (_ : ¬ ((xsi = i1) ∧ (ysi = j1) ∧ (zsi = k1))) (_ : i2 = (i1 + 1)) (_ : j2 = (j1 + 1)) (_ : k2 = (k1 + 1)) (_ : ¬ ((i1 = nx) ∧ (j1 ≠ ny) ∧ (k1 ≠ nz))) (_ : ¬ ((i1 ≠ nx) ∧ (j1 = ny) ∧ (k1 ≠ nz))) (_ : (i1 ≠ nx) ∧ (j1 ≠ ny) ∧ (k1 = nz)) :
    (0 ≤ i2 ∧ i2 < (nx + 1)) ∧ (0 ≤ j1 ∧ j1 < (ny + 1)) ∧ (0 ≤ k1 ∧ k1 < (nz + 1)) := ⟨by lia, Idx.node, Idx.node⟩

theorem vinterp3d_vinterp3d_L109c19_ctx0 (i1 i2 j1 j2 k1 k2 nx ny nz xsi ysi zsi : Int) (_ : 1 ≤ nx) (_ : 0 ≤ i1) (_ : i1 ≤ nx) (_ : i2 = i1 + 1) (_ : 1 ≤ ny) (_ : 0 ≤ j1) (_ : j1 ≤ ny) (_ : j2 = j1 + 1) (_ : 1 ≤ nz) (_ : 0 ≤ k1) (_ : k1 ≤ nz) (_ : k2 = k1 + 1) (_ : ¬ ((xsi = i1) ∧ (ysi = j1) ∧ (zsi = k1))) (_ : i2 = (i1 + 1)) (_ : j2 = (j1 + 1)) (_ : k2 = (k1 + 1)) (_ : ¬ ((i1 = nx) ∧ (j1 ≠ ny) ∧ (k1 ≠ nz))) (_ : ¬ ((i1 ≠ nx) ∧ (j1 = ny) ∧ (k1 ≠ nz))) (_ : (i1 ≠ nx) ∧ (j1 ≠ ny) ∧ (k1 = nz)) :
    (0 ≤ i1 ∧ i1 < (nx + 1)) ∧ (0 ≤ j2 ∧ j2 < (ny + 1)) ∧ (0 ≤ k1 ∧ k1 < (nz + 1)) := ⟨Idx.node, by lia, Idx.node⟩

theorem vinterp3d_vinterp3d_L110c19_ctx0 (i1 i2 j1 j2 k1 k2 nx ny nz xsi ysi zsi : Int) (_ : 1 ≤ nx) (_ : 0 ≤ i1) (_ : i1 ≤ nx) (_ : i2 = i1 + 1) (_ : 1 ≤ ny) (_ : 0 ≤ j1) (_ : j1 ≤ ny) (_ : j2 = j1 + 1) (_ : 1 ≤ nz) (_ : 0 ≤ k1) (_ : k1 ≤ nz) (_ : k2 = k1 + 1) (_ : ¬ ((xsi = i1) ∧ (ysi = j1) ∧ (zsi = k1))) (_ : i2 = (i1 + 1)) (_ : j2 = (j1 + 1)) (_ : k2 = (k1 + 1)) (_ : ¬ ((i1 = nx) ∧ (j1 ≠ ny) ∧ (k1 ≠ nz))) (_ : ¬ ((i1 ≠ nx) ∧ (j1 = ny) ∧ (k1 ≠ nz))) (_ : (i1 ≠ nx) ∧ (j1 ≠ ny) ∧ (k1 = nz)) :
    (0 ≤ i2 ∧ i2 < (nx + 1)) ∧ (0 ≤ j2 ∧ j2 < (ny + 1)) ∧ (0 ≤ k1 ∧ k1 < (nz + 1)) := ⟨by lia, by lia, Idx.node⟩

theorem vinterp3d_vinterp3d_L117c17_ctx0 (i1 i2 j1 j2 k1 k2 nx ny nz xsi ysi zsi : Int) (_ : 1 ≤ nx) (_ : 0 ≤ i1) (_ : i1 ≤ nx) (_ : i2 = i1 + 1) (_ : 1 ≤ ny) (_ : 0 ≤ j1) (_ : j1 ≤ ny) (_ : j2 = j1 + 1) (_ : 1 ≤ nz) (_ : 0 ≤ k1) (_ : k1 ≤ nz) (_ : k2 = k1 + 1) (_ : ¬ ((xsi = i1) ∧ (ysi = j1) ∧ (zsi = k1))) (_ : i2 = (i1 + 1)) (_ : j2 = (j1 + 1)) (_ : k2 = (k1 + 1)) (_ : ¬ ((i1 = nx) ∧ (j1 ≠ ny) ∧ (k1 ≠ nz))) (_ : ¬ ((i1 ≠ nx) ∧ (j1 = ny) ∧ (k1 ≠ nz))) (_ : ¬ ((i1 ≠ nx) ∧ (j1 ≠ ny) ∧ (k1 = nz))) (_ : (i1 = nx) ∧ (j1 = ny) ∧ (k1 ≠ nz)) :
    (0 ≤ i1 ∧ i1 < (nx + 1)) := Idx.node

theorem vinterp3d_vinterp3d_L118c28_ctx0 (i1 i2 j1 j2 k1 k2 nx ny nz xsi ysi zsi : Int) (_ : 1 ≤ nx) (_ : 0 ≤ i1) (_ : i1 ≤ nx) (_ : i2 = i1 + 1) (_ : 1 ≤ ny) (_ : 0 ≤ j1) (_ : j1 ≤ ny) (_ : j2 = j1 + 1) (_ : 1 ≤ nz) (_ : 0 ≤ k1) (_ : k1 ≤ nz) (_ : k2 = k1 + 1) (_ : ¬ ((xsi = i1) ∧ (ysi = j1) ∧ (zsi = k1))) (_ : i2 = (i1 + 1)) (_ : j2 = (j1 + 1)) (_ : k2 = (k1 + 1)) (_ : ¬ ((i1 = nx) ∧ (j1 ≠ ny) ∧ (k1 ≠ nz))) (_ : ¬ ((i1 ≠ nx) ∧ (j1 = ny) ∧ (k1 ≠ nz))) (_ : ¬ ((i1 ≠ nx) ∧ (j1 ≠ ny) ∧ (k1 = nz))) (_ : (i1 = nx) ∧ (j1 = ny) ∧ (k1 ≠ nz)) :
    (2 ≤ (nx + 1)) := Idx.lastButOne

theorem vinterp3d_vinterp3d_L119c17_ctx0 (i1 i2 j1 j2 k1 k2 nx ny nz xsi ysi zsi : Int) (_ : 1 ≤ nx) (_ : 0 ≤ i1) (_ : i1 ≤ nx) (_ : i2 = i1 + 1) (_ : 1 ≤ ny) (_ : 0 ≤ j1) (_ : j1 ≤ ny) (_ : j2 = j1 + 1) (_ : 1 ≤ nz) (_ : 0 ≤ k1) (_ : k1 ≤ nz) (_ : k2 = k1 + 1) (_ : ¬ ((xsi = i1) ∧ (ysi = j1) ∧ (zsi = k1))) (_ : i2 = (i1 + 1)) (_ : j2 = (j1 + 1)) (_ : k2 = (k1 + 1)) (_ : ¬ ((i1 = nx) ∧ (j1 ≠ ny) ∧ (k1 ≠ nz))) (_ : ¬ ((i1 ≠ nx) ∧ (j1 = ny) ∧ (k1 ≠ nz))) (_ : ¬ ((i1 ≠ nx) ∧ (j1 ≠ ny) ∧ (k1 = nz))) (_ : (i1 = nx) ∧ (j1 = ny) ∧ (k1 ≠ nz)) :
    (0 ≤ j1 ∧ j1 < (ny + 1)) := Idx.node

theorem vinterp3d_vinterp3d_L120c28_ctx0 (i1 i2 j1 j2 k1 k2 nx ny nz xsi ysi zsi : Int) (_ : 1 ≤ nx) (_ : 0 ≤ i1) (_ : i1 ≤ nx) (_ : i2 = i1 + 1) (_ : 1 ≤ ny) (_ : 0 ≤ j1) (_ : j1 ≤ ny) (_ : j2 = j1 + 1) (_ : 1 ≤ nz) (_ : 0 ≤ k1) (_ : k1 ≤ nz) (_ : k2 = k1 + 1) (_ : ¬ ((xsi = i1) ∧ (ysi = j1) ∧ (zsi = k1))) (_ : i2 = (i1 + 1)) (_ : j2 = (j1 + 1)) (_ : k2 = (k1 + 1)) (_ : ¬ ((i1 = nx) ∧ (j1 ≠ ny) ∧ (k1 ≠ nz))) (_ : ¬ ((i1 ≠ nx) ∧ (j1 = ny) ∧ (k1 ≠ nz))) (_ : ¬ ((i1 ≠ nx) ∧ (j1 ≠ ny) ∧ (k1 = nz))) (_ : (i1 = nx) ∧ (j1 = ny) ∧ (k1 ≠ nz)) :
    (2 ≤ (ny + 1)) := Idx.lastButOne

theorem vinterp3d_vinterp3d_L121c17_ctx0 (i1 i2 j1 j2 k1 k2 nx ny nz xsi ysi zsi : Int) (_ : 1 ≤ nx) (_ : 0 ≤ i1) (_ : i1 ≤ nx) (_ : i2 = i1 + 1) (_ : 1 ≤ ny) (_ : 0 ≤ j1) (_ : j1 ≤ ny) (_ : j2 = j1 + 1) (_ : 1 ≤ nz) (_ : 0 ≤ k1) (_ : k1 ≤ nz) (_ : k2 = k1 + 1) (_ : ¬ ((xsi = i1) ∧ (ysi = j1) ∧ (zsi = k1))) (_ : i2 = (i1 + 1)) (_ : j2 = (j1 + 1)) (_ : k2 = (k1 + 1)) (_ : ¬ ((i1 = nx) ∧ (j1 ≠ ny) ∧ (k1 ≠ nz))) (_ : ¬ ((i1 ≠ nx) ∧ (j1 = ny) ∧ (k1 ≠ nz))) (_ : ¬ ((i1 ≠ nx) ∧ (j1 ≠ ny) ∧ (k1 = nz))) (_ : (i1 = nx) ∧ (j1 = ny) ∧ (k1 ≠ nz)) :
    (0 ≤ k1 ∧ k1 < (nz + 1)) := Idx.node

theorem vinterp3d_vinterp3d_L122c17_ctx0 (i1 i2 j1 j2 k1 k2 nx ny nz xsi ysi zsi : Int) (_ : 1 ≤ nx) (_ : 0 ≤ i1) (_ : i1 ≤ nx) (_ : i2 = i1 + 1) (_ : 1 ≤ ny) (_ : 0 ≤ j1) (_ : j1 ≤ ny) (_ : j2 = j1 + 1) (_ : 1 ≤ nz) (_ : 0 ≤ k1) (_ : k1 ≤ nz) (_ : k2 = k1 + 1) (_ : ¬ ((xsi = i1) ∧ (ysi = j1) ∧ (zsi = k1))) (_ : i2 = (i1 + 1)) (_ : j2 = (j1 + 1)) (_ : k2 = (k1 + 1)) (_ : ¬ ((i1 = nx) ∧ (j1 ≠ ny) ∧ (k1 ≠ nz))) (_ : ¬ ((i1 ≠ nx) ∧ (j1 = ny) ∧ (k1 ≠ nz))) (_ : ¬ ((i1 ≠ nx) ∧ (j1 ≠ ny) ∧ (k1 = nz))) (_ : (i1 = nx) ∧ (j1 = ny) ∧ (k1 ≠ nz)) :
    (0 ≤ k2 ∧ k2 < (nz + 1)) := by lia

theorem vinterp3d_vinterp3d_L133c19_ctx0 (i1 i2 j1 j2 k1 k2 nx ny nz xsi ysi zsi : Int) (_ : 1 ≤ nx) (_ : 0 ≤ i1) (_ : i1 ≤ nx) (_ : i2 = i1 + 1) (_ : 1 ≤ ny) (_ : 0 ≤ j1) (_ : j1 ≤ ny) (_ : j2 = j1 + 1) (_ : 1 ≤ nz) (_ : 0 ≤ k1) (_ : k1 ≤ nz) (_ : k2 = k1 + 1) (_ : ¬ ((xsi = i1) ∧ (ysi = j1) ∧ (zsi = k1))) (_ : i2 = (i1 + 1)) (_ : j2 = (j1 + 1)) (_ : k2 = (k1 + 1)) (_ : ¬ ((i1 = nx) ∧ (j1 ≠ ny) ∧ (k1 ≠ nz))) (_ : ¬ ((i1 ≠ nx) ∧ (j1 = ny) ∧ (k1 ≠ nz))) (_ : ¬ ((i1 ≠ nx) ∧ (j1 ≠ ny) ∧ (k1 = nz))) (_ : (i1 = nx) ∧ (j1 = ny) ∧ (k1 ≠ nz)) :
    (0 ≤ i1 ∧ i1 < (nx + 1)) ∧ (0 ≤ j1 ∧ j1 < (ny + 1)) ∧ (0 ≤ k1 ∧ k1 < (nz + 1)) := ⟨Idx.node, Idx.node, Idx.node⟩

theorem vinterp3d_vinterp3d_L137c19_ctx0 (i1 i2 j1 j2 k1 k2 nx ny nz xsi ysi zsi : Int) (_ : 1 ≤ nx) (_ : 0 ≤ i1) (_ : i1 ≤ nx) (_ : i2 = i1 + 1) (_ : 1 ≤ ny) (_ : 0 ≤ j1) (_ : j1 ≤ ny) (_ : j2 = j1 + 1) (_ : 1 ≤ nz) (_ : 0 ≤ k1) (_ : k1 ≤ nz) (_ : k2 = k1 + 1) (_ : ¬ ((xsi = i1) ∧ (ysi = j1) ∧ (zsi = k1))) (_ : i2 = (i1 + 1)) (_ : j2 = (j1 + 1)) (_ : k2 = (k1 + 1)) (_ : ¬ ((i1 = nx) ∧ (j1 ≠ ny) ∧ (k1 ≠ nz))) (_ : ¬ ((i1 ≠ nx) ∧ (j1 = ny) ∧ (k1 ≠ nz))) (_ : ¬ ((i1 ≠ nx) ∧ (j1 ≠ ny) ∧ (k1 = nz))) (_ : (i1 = nx) ∧ (j1 = ny) ∧ (k1 ≠ nz)) :
    (0 ≤ i1 ∧ i1 < (nx + 1)) ∧ (0 ≤ j1 ∧ j1 < (ny + 1)) ∧ (0 ≤ k2 ∧ k2 < (nz + 1)) := ⟨Idx.node, Idx.node, by lia⟩

theorem vinterp3d_vinterp3d_L143c17_ctx0 (i1 i2 j1 j2 k1 k2 nx ny nz xsi ysi zsi : Int) (_ : 1 ≤ nx) (_ : 0 ≤ i1) (_ : i1 ≤ nx) (_ : i2 = i1 + 1) (_ : 1 ≤ ny) (_ : 0 ≤ j1) (_ : j1 ≤ ny) (_ : j2 = j1 + 1) (_ : 1 ≤ nz) (_ : 0 ≤ k1) (_ : k1 ≤ nz) (_ : k2 = k1 + 1) (_ : ¬ ((xsi = i1) ∧ (ysi = j1) ∧ (zsi = k1))) (_ : i2 = (i1 + 1)) (_ : j2 = (j1 + 1)) (_ : k2 = (k1 + 1)) (_ : ¬ ((i1 = nx) ∧ (j1 ≠ ny) ∧ (k1 ≠ nz))) (_ : ¬ ((i1 ≠ nx) ∧ (j1 = ny) ∧ (k1 ≠ nz))) (_ : ¬ ((i1 ≠ nx) ∧ (j1 ≠ ny) ∧ (k1 = nz))) (_ : ¬ ((i1 = nx) ∧ (j1 = ny) ∧ (k1 ≠ nz))) (_ : (i1 = nx) ∧ (j1 ≠ ny) ∧ (k1 = nz)) :
    (0 ≤ i1 ∧ i1 < (nx + 1)) := Idx.node

theorem vinterp3d_vinterp3d_L144c28_ctx0 (i1 i2 j1 j2 k1 k2 nx ny nz xsi ysi zsi : Int) (_ : 1 ≤ nx) (_ : 0 ≤ i1) (_ : i1 ≤ nx) (_ : i2 = i1 + 1) (_ : 1 ≤ ny) (_ : 0 ≤ j1) (_ : j1 ≤ ny) (_ : j2 = j1 + 1) (_ : 1 ≤ nz) (_ : 0 ≤ k1) (_ : k1 ≤ nz) (_ : k2 = k1 + 1) (_ : ¬ ((xsi = i1) ∧ (ysi = j1) ∧ (zsi = k1))) (_ : i2 = (i1 + 1)) (_ : j2 = (j1 + 1)) (_ : k2 = (k1 + 1)) (_ : ¬ ((i1 = nx) ∧ (j1 ≠ ny) ∧ (k1 ≠ nz))) (_ : ¬ ((i1 ≠ nx) ∧ (j1 = ny) ∧ (k1 ≠ nz))) (_ : ¬ ((i1 ≠ nx) ∧ (j1 ≠ ny) ∧ (k1 = nz))) (_ : ¬ ((i1 = nx) ∧ (j1 = ny) ∧ (k1 ≠ nz))) (_ : (i1 = nx) ∧ (j1 ≠ ny) ∧ (k1 = nz)) :
    (2 ≤ (nx + 1)) := Idx.lastButOne

theorem vinterp3d_vinterp3d_L145c17_ctx0 (i1 i2 j1 j2 k1 k2 nx ny nz xsi ysi zsi : Int) (_ : 1 ≤ nx) (_ : 0 ≤ i1) (_ : i1 ≤ nx) (_ : i2 = i1 + 1) (_ : 1 ≤ ny) (_ : 0 ≤ j1) (_ : j1 ≤ ny) (_ : j2 = j1 + 1) (_ : 1 ≤ nz) (_ : 0 ≤ k1) (_ : k1 ≤ nz) (_ : k2 = k1 + 1) (_ : ¬ ((xsi = i1) ∧ (ysi = j1) ∧ (zsi = k1))) (_ : i2 = (i1 + 1)) (_ : j2 = (j1 + 1)) (_ : k2 = (k1 + 1)) (_ : ¬ ((i1 = nx) ∧ (j1 ≠ ny) ∧ (k1 ≠ nz))) (_ : ¬ ((i1 ≠ nx) ∧ (j1 = ny) ∧ (k1 ≠ nz))) (_ : ¬ ((i1 ≠ nx) ∧ (j1 ≠ ny) ∧ (k1 = nz))) (_ : ¬ ((i1 = nx) ∧ (j1 = ny) ∧ (k1 ≠ nz))) (_ : (i1 = nx) ∧ (j1 ≠ ny) ∧ (k1 = nz)) :
    (0 ≤ j1 ∧ j1 < (ny + 1)) := Idx.node

theorem vinterp3d_vinterp3d_L146c17_ctx0 (i1 i2 j1 j2 k1 k2 nx ny nz xsi ysi zsi : Int) (_ : 1 ≤ nx) (_ : 0 ≤ i1) (_ : i1 ≤ nx) (_ : i2 = i1 + 1) (_ : 1 ≤ ny) (_ : 0 ≤ j1) (_ : j1 ≤ ny) (_ : j2 = j1 + 1) (_ : 1 ≤ nz) (_ : 0 ≤ k1) (_ : k1 ≤ nz) (_ : k2 = k1 + 1) (_ : ¬ ((xsi = i1) ∧ (ysi = j1) ∧ (zsi = k1))) (_ : i2 = (i1 + 1)) (_ : j2 = (j1 + 1)) (_ : k2 = (k1 + 1)) (_ : ¬ ((i1 = nx) ∧ (j1 ≠ ny) ∧ (k1 ≠ nz))) (_ : ¬ ((i1 ≠ nx) ∧ (j1 = ny) ∧ (k1 ≠ nz))) (_ : ¬ ((i1 ≠ nx) ∧ (j1 ≠ ny) ∧ (k1 = nz))) (_ : ¬ ((i1 = nx) ∧ (j1 = ny) ∧ (k1 ≠ nz))) (_ : (i1 = nx) ∧ (j1 ≠ ny) ∧ (k1 = nz)) :
    (0 ≤ j2 ∧ j2 < (ny + 1)) := by lia

theorem vinterp3d_vinterp3d_L147c17_ctx0 (i1 i2 j1 j2 k1 k2 nx ny nz xsi ysi zsi : Int) (_ : 1 ≤ nx) (_ : 0 ≤ i1) (_ : i1 ≤ nx) (_ : i2 = i1 + 1) (_ : 1 ≤ ny) (_ : 0 ≤ j1) (_ : j1 ≤ ny) (_ : j2 = j1 + 1) (_ : 1 ≤ nz) (_ : 0 ≤ k1) (_ : k1 ≤ nz) (_ : k2 = k1 + 1) (_ : ¬ ((xsi = i1) ∧ (ysi = j1) ∧ (zsi = k1))) (_ : i2 = (i1 + 1)) (_ : j2 = (j1 + 1)) (_ : k2 = (k1 + 1)) (_ : ¬ ((i1 = nx) ∧ (j1 ≠ ny) ∧ (k1 ≠ nz))) (_ : ¬ ((i1 ≠ nx) ∧ (j1 = ny) ∧ (k1 ≠ nz))) (_ : ¬ ((i1 ≠ nx) ∧ (j1 ≠ ny) ∧ (k1 = nz))) (_ : ¬ ((i1 = nx) ∧ (j1 = ny) ∧ (k1 ≠ nz))) (_ : (i1 = nx) ∧ (j1 ≠ ny) ∧ (k1 = nz)) :
    (0 ≤ k1 ∧ k1 < (nz + 1)) := Idx.node

theorem vinterp3d_vinterp3d_L148c28_ctx0 (i1 i2 j1 j2 k1 k2 nx ny nz xsi ysi zsi : Int) (_ : 1 ≤ nx) (_ : 0 ≤ i1) (_ : i1 ≤ nx) (_ : i2 = i1 + 1) (_ : 1 ≤ ny) (_ : 0 ≤ j1) (_ : j1 ≤ ny) (_ : j2 = j1 + 1) (_ : 1 ≤ nz) (_ : 0 ≤ k1) (_ : k1 ≤ nz) (_ : k2 = k1 + 1) (_ : ¬ ((xsi = i1) ∧ (ysi = j1) ∧ (zsi = k1))) (_ : i2 = (i1 + 1)) (_ : j2 = (j1 + 1)) (_ : k2 = (k1 + 1)) (_ : ¬ ((i1 = nx) ∧ (j1 ≠ ny) ∧ (k1 ≠ nz))) (_ : ¬ ((i1 ≠ nx) ∧ (j1 = ny) ∧ (k1 ≠ nz))) (_ : ¬ ((i1 ≠ nx) ∧ (j1 ≠ ny) ∧ (k1 = nz))) (_ : ¬ ((i1 = nx) ∧ (j1 = ny) ∧ (k1 ≠ nz))) (_ : (i1 = nx) ∧ (j1 ≠ ny) ∧ (k1 = nz)) :
    (2 ≤ (nz + 1)) := Idx.lastButOne

theorem vinterp3d_vinterp3d_L159c19_ctx0 (i1 i2 j1 j2 k1 k2 nx ny nz xsi ysi zsi : Int) (_ : 1 ≤ nx) (_ : 0 ≤ i1) (_ : i1 ≤ nx) (_ : i2 = i1 + 1) (_ : 1 ≤ ny) (_ : 0 ≤ j1) (_ : j1 ≤ ny) (_ : j2 = j1 + 1) (_ : 1 ≤ nz) (_ : 0 ≤ k1) (_ : k1 ≤ nz) (_ : k2 = k1 + 1) (_ : ¬ ((xsi = i1) ∧ (ysi = j1) ∧ (zsi = k1))) (_ : i2 = (i1 + 1)) (_ : j2 = (j1 + 1)) (_ : k2 = (k1 + 1)) (_ : ¬ ((i1 = nx) ∧ (j1 ≠ ny) ∧ (k1 ≠ nz))) (_ : ¬ ((i1 ≠ nx) ∧ (j1 = ny) ∧ (k1 ≠ nz))) (_ : ¬ ((i1 ≠ nx) ∧ (j1 ≠ ny) ∧ (k1 = nz))) (_ : ¬ ((i1 = nx) ∧ (j1 = ny) ∧ (k1 ≠ nz))) (_ : (i1 = nx) ∧ (j1 ≠ ny) ∧ (k1 = nz)) :
    (0 ≤ i1 ∧ i1 < (nx + 1)) ∧ (0 ≤ j1 ∧ j1 < (ny + 1)) ∧ (0 ≤ k1 ∧ k1 < (nz + 1)) := ⟨Idx.node, Idx.node, Idx.node⟩

theorem vinterp3d_vinterp3d_L161c19_ctx0 (i1 i2 j1 j2 k1 k2 nx ny nz xsi ysi zsi : Int) (_ : 1 ≤ nx) (_ : 0 ≤ i1) (_ : i1 ≤ nx) (_ : i2 = i1 + 1) (_ : 1 ≤ ny) (_ : 0 ≤ j1) (_ : j1 ≤ ny) (_ : j2 = j1 + 1) (_ : 1 ≤ nz) (_ : 0 ≤ k1) (_ : k1 ≤ nz) (_ : k2 = k1 + 1) (_ : ¬ ((xsi = i1) ∧ (ysi = j1) ∧ (zsi = k1))) (_ : i2 = (i1 + 1)) (_ : j2 = (j1 + 1)) (_ : k2 = (k1 + 1)) (_ : ¬ ((i1 = nx) ∧ (j1 ≠ ny) ∧ (k1 ≠ nz))) (_ : ¬ ((i1 ≠ nx) ∧ (j1 = ny) ∧ (k1 ≠ nz))) (_ : ¬ ((i1 ≠ nx) ∧ (j1 ≠ ny) ∧ (k1 = nz))) (_ : ¬ ((i1 = nx) ∧ (j1 = ny) ∧ (k1 ≠ nz))) (_ : (i1 = nx) ∧ (j1 ≠ ny) ∧ (k1 = nz)) :
    (0 ≤ i1 ∧ i1 < (nx + 1)) ∧ (0 ≤ j2 ∧ j2 < (ny + 1)) ∧ (0 ≤ k1 ∧ k1 < (nz + 1)) := ⟨Idx.node, by lia, Idx.node⟩

theorem vinterp3d_vinterp3d_L169c17_ctx0 (i1 i2 j1 j2 k1 k2 nx ny nz xsi ysi zsi : Int) (_ : 1 ≤ nx) (_ : 0 ≤ i1) (_ : i1 ≤ nx) (_ : i2 = i1 + 1) (_ : 1 ≤ ny) (_ : 0 ≤ j1) (_ : j1 ≤ ny) (_ : j2 = j1 + 1) (_ : 1 ≤ nz) (_ : 0 ≤ k1) (_ : k1 ≤ nz) (_ : k2 = k1 + 1) (_ : ¬ ((xsi = i1) ∧ (ysi = j1) ∧ (zsi = k1))) (_ : i2 = (i1 + 1)) (_ : j2 = (j1 + 1)) (_ : k2 = (k1 + 1)) (_ : ¬ ((i1 = nx) ∧ (j1 ≠ ny) ∧ (k1 ≠ nz))) (_ : ¬ ((i1 ≠ nx) ∧ (j1 = ny) ∧ (k1 ≠ nz))) (_ : ¬ ((i1 ≠ nx) ∧ (j1 ≠ ny) ∧ (k1 = nz))) (_ : ¬ ((i1 = nx) ∧ (j1 = ny) ∧ (k1 ≠ nz))) (_ : ¬ ((i1 = nx) ∧ (j1 ≠ ny) ∧ (k1 = nz))) (_ : (i1 ≠ nx) ∧ (j1 = ny) ∧ (k1 = nz)) :
    (0 ≤ i1 ∧ i1 < (nx + 1)) := Idx.node

theorem vinterp3d_vinterp3d_L170c17_ctx0 (i1 i2 j1 j2 k1 k2 nx ny nz xsi ysi zsi : Int) (_ : 1 ≤ nx) (_ : 0 ≤ i1) (_ : i1 ≤ nx) (_ : i2 = i1 + 1) (_ : 1 ≤ ny) (_ : 0 ≤ j1) (_ : j1 ≤ ny) (_ : j2 = j1 + 1) (_ : 1 ≤ nz) (_ : 0 ≤ k1) (_ : k1 ≤ nz) (_ : k2 = k1 + 1) (_ : ¬ ((xsi = i1) ∧ (ysi = j1) ∧ (zsi = k1))) (_ : i2 = (i1 + 1)) (_ : j2 = (j1 + 1)) (_ : k2 = (k1 + 1)) (_ : ¬ ((i1 = nx) ∧ (j1 ≠ ny) ∧ (k1 ≠ nz))) (_ : ¬ ((i1 ≠ nx) ∧ (j1 = ny) ∧ (k1 ≠ nz))) (_ : ¬ ((i1 ≠ nx) ∧ (j1 ≠ ny) ∧ (k1 = nz))) (_ : ¬ ((i1 = nx) ∧ (j1 = ny) ∧ (k1 ≠ nz))) (_ : ¬ ((i1 = nx) ∧ (j1 ≠ ny) ∧ (k1 = nz))) (_ : (i1 ≠ nx) ∧ (j1 = ny) ∧ (k1 = nz)) :
    (0 ≤ i2 ∧ i2 < (nx + 1)) := by lia

theorem vinterp3d_vinterp3d_L171c17_ctx0 (i1 i2 j1 j2 k1 k2 nx ny nz xsi ysi zsi : Int) (_ : 1 ≤ nx) (_ : 0 ≤ i1) (_ : i1 ≤ nx) (_ : i2 = i1 + 1) (_ : 1 ≤ ny) (_ : 0 ≤ j1) (_ : j1 ≤ ny) (_ : j2 = j1 + 1) (_ : 1 ≤ nz) (_ : 0 ≤ k1) (_ : k1 ≤ nz) (_ : k2 = k1 + 1) (_ : ¬ ((xsi = i1) ∧ (ysi = j1) ∧ (zsi = k1))) (_ : i2 = (i1 + 1)) (_ : j2 = (j1 + 1)) (_ : k2 = (k1 + 1)) (_ : ¬ ((i1 = nx) ∧ (j1 ≠ ny) ∧ (k1 ≠ nz))) (_ : ¬ ((i1 ≠ nx) ∧ (j1 = ny) ∧ (k1 ≠ nz))) (_ : ¬ ((i1 ≠ nx) ∧ (j1 ≠ ny) ∧ (k1 = nz))) (_ : ¬ ((i1 = nx) ∧ (j1 = ny) ∧ (k1 ≠ nz))) (_ : ¬ ((i1 = nx) ∧ (j1 ≠ ny) ∧ (k1 = nz))) (_ : (i1 ≠ nx) ∧ (j1 = ny) ∧ (k1 = nz)) :
    (0 ≤ j1 ∧ j1 < (ny + 1)) := Idx.node

theorem vinterp3d_vinterp3d_L172c28_ctx0 (i1 i2 j1 j2 k1 k2 nx ny nz xsi ysi zsi : Int) (_ : 1 ≤ nx) (_ : 0 ≤ i1) (_ : i1 ≤ nx) (_ : i2 = i1 + 1) (_ : 1 ≤ ny) (_ : 0 ≤ j1) (_ : j1 ≤ ny) (_ : j2 = j1 + 1) (_ : 1 ≤ nz) (_ : 0 ≤ k1) (_ : k1 ≤ nz) (_ : k2 = k1 + 1) (_ : ¬ ((xsi = i1) ∧ (ysi = j1) ∧ (zsi = k1))) (_ : i2 = (i1 + 1)) (_ : j2 = (j1 + 1)) (_ : k2 = (k1 + 1)) (_ : ¬ ((i1 = nx) ∧ (j1 ≠ ny) ∧ (k1 ≠ nz))) (_ : ¬ ((i1 ≠ nx) ∧ (j1 = ny) ∧ (k1 ≠ nz))) (_ : ¬ ((i1 ≠ nx) ∧ (j1 ≠ ny) ∧ (k1 = nz))) (_ : ¬ ((i1 = nx) ∧ (j1 = ny) ∧ (k1 ≠ nz))) (_ : ¬ ((i1 = nx) ∧ (j1 ≠ ny) ∧ (k1 = nz))) (_ : (i1 ≠ nx) ∧ (j1 = ny) ∧ (k1 = nz)) :
    (2 ≤ (ny + 1)) := Idx.lastButOne

theorem vinterp3d_vinterp3d_L173c17_ctx0 (i1 i2 j1 j2 k1 k2 nx ny nz xsi ysi zsi : Int) (_ : 1 ≤ nx) (_ : 0 ≤ i1) (_ : i1 ≤ nx) (_ : i2 = i1 + 1) (_ : 1 ≤ ny) (_ : 0 ≤ j1) (_ : j1 ≤ ny) (_ : j2 = j1 + 1) (_ : 1 ≤ nz) (_ : 0 ≤ k1) (_ : k1 ≤ nz) (_ : k2 = k1 + 1) (_ : ¬ ((xsi = i1) ∧ (ysi = j1) ∧ (zsi = k1))) (_ : i2 = (i1 + 1)) (_ : j2 = (j1 + 1)) (_ : k2 = (k1 + 1)) (_ : ¬ ((i1 = nx) ∧ (j1 ≠ ny) ∧ (k1 ≠ nz))) (_ : ¬ ((i1 ≠ nx) ∧ (j1 = ny) ∧ (k1 ≠ nz))) (_ : ¬ ((i1 ≠ nx) ∧ (j1 ≠ ny) ∧ (k1 = nz))) (_ : ¬ ((i1 = nx) ∧ (j1 = ny) ∧ (k1 ≠ nz))) (_ : ¬ ((i1 = nx) ∧ (j1 ≠ ny) ∧ (k1 = nz))) (_ : (i1 ≠ nx) ∧ (j1 = ny) ∧ (k1 = nz)) :
    (0 ≤ k1 ∧ k1 < (nz + 1)) := Idx.node

theorem vinterp3d_vinterp3d_L174c28_ctx0 (i1 i2 j1 j2 k1 k2 nx ny nz xsi ysi zsi : Int) (_ : 1 ≤ nx) (_ : 0 ≤ i1) (_ : i1 ≤ nx) (_ : i2 = i1 + 1) (_ : 1 ≤ ny) (_ : 0 ≤ j1) (_ : j1 ≤ ny) (_ : j2 = j1 + 1) (_ : 1 ≤ nz) (_ : 0 ≤ k1) (_ : k1 ≤ nz) (_ : k2 = k1 + 1) (_ : ¬ ((xsi = i1) ∧ (ysi = j1) ∧ (zsi = k1))) (_ : i2 = (i1 + 1)) (_ : j2 = (j1 + 1)) (_ : k2 = (k1 + 1)) (_ : ¬ ((i1 = nx) ∧ (j1 ≠ ny) ∧ (k1 ≠ nz))) (_ : ¬ ((i1 ≠ nx) ∧ (j1 = ny) ∧ (k1 ≠ nz))) (_ : ¬ ((i1 ≠ nx) ∧ (j1 ≠ ny) ∧ (k1 = nz))) (_ : ¬ ((i1 = nx) ∧ (j1 = ny) ∧ (k1 ≠ nz))) (_ : ¬ ((i1 = nx) ∧ (j1 ≠ ny) ∧ (k1 = nz))) (_ : (i1 ≠ nx) ∧ (j1 = ny) ∧ (k1 = nz)) :
    (2 ≤ (nz + 1)) := Idx.lastButOne

theorem vinterp3d_vinterp3d_L185c19_ctx0 (i1 i2 j1 j2 k1 k2 nx ny nz xsi ysi zsi : Int) (_ : 1 ≤ nx) (_ : 0 ≤ i1) (_ : i1 ≤ nx) (_ : i2 = i1 + 1) (_ : 1 ≤ ny) (_ : 0 ≤ j1) (_ : j1 ≤ ny) (_ : j2 = j1 + 1) (_ : 1 ≤ nz) (_ : 0 ≤ k1) (_ : k1 ≤ nz) (_ : k2 = k1 + 1) (_ : ¬ ((xsi = i1) ∧ (ysi = j1) ∧ (zsi = k1))) (_ : i2 = (i1 + 1)) (_ : j2 = (j1 + 1)) (_ : k2 = (k1 + 1)) (_ : ¬ ((i1 = nx) ∧ (j1 ≠ ny) ∧ (k1 ≠ nz))) (_ : ¬ ((i1 ≠ nx) ∧ (j1 = ny) ∧ (k1 ≠ nz))) (_ : ¬ ((i1 ≠ nx) ∧ (j1 ≠ ny) ∧ (k1 = nz))) (_ : ¬ ((i1 = nx) ∧ (j1 = ny) ∧ (k1 ≠ nz))) (_ : ¬ ((i1 = nx) ∧ (j1 ≠ ny) ∧ (k1 = nz))) (_ : (i1 ≠ nx) ∧ (j1 = ny) ∧ (k1 = nz)) :
    (0 ≤ i1 ∧ i1 < (nx + 1)) ∧ (0 ≤ j1 ∧ j1 < (ny + 1)) ∧ (0 ≤ k1 ∧ k1 < (nz + 1)) := ⟨Idx.node, Idx.node, Idx.node⟩

theorem vinterp3d_vinterp3d_L186c19_ctx0 (i1 i2 j1 j2 k1 k2 nx ny nz xsi ysi zsi : Int) (_ : 1 ≤ nx) (_ : 0 ≤ i1) (_ : i1 ≤ nx) (_ : i2 = i1 + 1) (_ : 1 ≤ ny) (_ : 0 ≤ j1) (_ : j1 ≤ ny) (_ : j2 = j1 + 1) (_ : 1 ≤ nz) (_ : 0 ≤ k1) (_ : k1 ≤ nz) (_ : k2 = k1 + 1) (_ : ¬ ((xsi = i1) ∧ (ysi = j1) ∧ (zsi = k1))) (_ : i2 = (i1 + 1)) (_ : j2 = (j1 + 1)) (_ : k2 = (k1 + 1)) (_ : ¬ ((i1 = nx) ∧ (j1 ≠ ny) ∧ (k1 ≠ nz))) (_ : ¬ ((i1 ≠ nx) ∧ (j1 = ny) ∧ (k1 ≠ nz))) (_ : ¬ ((i1 ≠ nx) ∧ (j1 ≠ ny) ∧ (k1 = nz))) (_ : ¬ ((i1 = nx) ∧ (j1 = ny) ∧ (k1 ≠ nz))) (_ : ¬ ((i1 = nx) ∧ (j1 ≠ ny) ∧ (k1 = nz))) (_ : (i1 ≠ nx) ∧ (j1 = ny) ∧ (k1 = nz)) :
    (0 ≤ i2 ∧ i2 < (nx + 1)) ∧ (0 ≤ j1 ∧ j1 < (ny + 1)) ∧ (0 ≤ k1 ∧ k1 < (nz + 1)) := ⟨by lia, Idx.node, Idx.node⟩

theorem vinterp3d_vinterp3d_L195c17_ctx0 (i1 i2 j1 j2 k1 k2 nx ny nz xsi ysi zsi : Int) (_ : 1 ≤ nx) (_ : 0 ≤ i1) (_ : i1 ≤ nx) (_ : i2 = i1 + 1) (_ : 1 ≤ ny) (_ : 0 ≤ j1) (_ : j1 ≤ ny) (_ : j2 = j1 + 1) (_ : 1 ≤ nz) (_ : 0 ≤ k1) (_ : k1 ≤ nz) (_ : k2 = k1 + 1) (_ : ¬ ((xsi = i1) ∧ (ysi = j1) ∧ (zsi = k1))) (_ : i2 = (i1 + 1)) (_ : j2 = (j1 + 1)) (_ : k2 = (k1 + 1)) (_ : ¬ ((i1 = nx) ∧ (j1 ≠ ny) ∧ (k1 ≠ nz))) (_ : ¬ ((i1 ≠ nx) ∧ (j1 = ny) ∧ (k1 ≠ nz))) (_ : ¬ ((i1 ≠ nx) ∧ (j1 ≠ ny) ∧ (k1 = nz))) (_ : ¬ ((i1 = nx) ∧ (j1 = ny) ∧ (k1 ≠ nz))) (_ : ¬ ((i1 = nx) ∧ (j1 ≠ ny) ∧ (k1 = nz))) (_ : ¬ ((i1 ≠ nx) ∧ (j1 = ny) ∧ (k1 = nz))) (_ : (i1 = nx) ∧ (j1 = ny) ∧ (k1 = nz)) :
    (0 ≤ i1 ∧ i1 < (nx + 1)) := Idx.node

theorem vinterp3d_vinterp3d_L196c28_ctx0 (i1 i2 j1 j2 k1 k2 nx ny nz xsi ysi zsi : Int) (_ : 1 ≤ nx) (_ : 0 ≤ i1) (_ : i1 ≤ nx) (_ : i2 = i1 + 1) (_ : 1 ≤ ny) (_ : 0 ≤ j1) (_ : j1 ≤ ny) (_ : j2 = j1 + 1) (_ : 1 ≤ nz) (_ : 0 ≤ k1) (_ : k1 ≤ nz) (_ : k2 = k1 + 1) (_ : ¬ ((xsi = i1) ∧ (ysi = j1) ∧ (zsi = k1))) (_ : i2 = (i1 + 1)) (_ : j2 = (j1 + 1)) (_ : k2 = (k1 + 1)) (_ : ¬ ((i1 = nx) ∧ (j1 ≠ ny) ∧ (k1 ≠ nz))) (_ : ¬ ((i1 ≠ nx) ∧ (j1 = ny) ∧ (k1 ≠ nz))) (_ : ¬ ((i1 ≠ nx) ∧ (j1 ≠ ny) ∧ (k1 = nz))) (_ : ¬ ((i1 = nx) ∧ (j1 = ny) ∧ (k1 ≠ nz))) (_ : ¬ ((i1 = nx) ∧ (j1 ≠ ny) ∧ (k1 = nz))) (_ : ¬ ((i1 ≠ nx) ∧ (j1 = ny) ∧ (k1 = nz))) (_ : (i1 = nx) ∧ (j1 = ny) ∧ (k1 = nz)) :
    (2 ≤ (nx + 1)) := Idx.lastButOne

theorem vinterp3d_vinterp3d_L197c17_ctx0 (i1 i2 j1 j2 k1 k2 nx ny nz xsi ysi zsi : Int) (_ : 1 ≤ nx) (_ : 0 ≤ i1) (_ : i1 ≤ nx) (_ : i2 = i1 + 1) (_ : 1 ≤ ny) (_ : 0 ≤ j1) (_ : j1 ≤ ny) (_ : j2 = j1 + 1) (_ : 1 ≤ nz) (_ : 0 ≤ k1) (_ : k1 ≤ nz) (_ : k2 = k1 + 1) (_ : ¬ ((xsi = i1) ∧ (ysi = j1) ∧ (zsi = k1))) (_ : i2 = (i1 + 1)) (_ : j2 = (j1 + 1)) (_ : k2 = (k1 + 1)) (_ : ¬ ((i1 = nx) ∧ (j1 ≠ ny) ∧ (k1 ≠ nz))) (_ : ¬ ((i1 ≠ nx) ∧ (j1 = ny) ∧ (k1 ≠ nz))) (_ : ¬ ((i1 ≠ nx) ∧ (j1 ≠ ny) ∧ (k1 = nz))) (_ : ¬ ((i1 = nx) ∧ (j1 = ny) ∧ (k1 ≠ nz))) (_ : ¬ ((i1 = nx) ∧ (j1 ≠ ny) ∧ (k1 = nz))) (_ : ¬ ((i1 ≠ nx) ∧ (j1 = ny) ∧ (k1 = nz))) (_ : (i1 = nx) ∧ (j1 = ny) ∧ (k1 = nz)) :
    (0 ≤ j1 ∧ j1 < (ny + 1)) := Idx.node

theorem vinterp3d_vinterp3d_L198c28_ctx0 (i1 i2 j1 j2 k1 k2 nx ny nz xsi ysi zsi : Int) (_ : 1 ≤ nx) (_ : 0 ≤ i1) (_ : i1 ≤ nx) (_ : i2 = i1 + 1) (_ : 1 ≤ ny) (_ : 0 ≤ j1) (_ : j1 ≤ ny) (_ : j2 = j1 + 1) (_ : 1 ≤ nz) (_ : 0 ≤ k1) (_ : k1 ≤ nz) (_ : k2 = k1 + 1) (_ : ¬ ((xsi = i1) ∧ (ysi = j1) ∧ (zsi = k1))) (_ : i2 = (i1 + 1)) (_ : j2 = (j1 + 1)) (_ : k2 = (k1 + 1)) (_ : ¬ ((i1 = nx) ∧ (j1 ≠ ny) ∧ (k1 ≠ nz))) (_ : ¬ ((i1 ≠ nx) ∧ (j1 = ny) ∧ (k1 ≠ nz))) (_ : ¬ ((i1 ≠ nx) ∧ (j1 ≠ ny) ∧ (k1 = nz))) (_ : ¬ ((i1 = nx) ∧ (j1 = ny) ∧ (k1 ≠ nz))) (_ : ¬ ((i1 = nx) ∧ (j1 ≠ ny) ∧ (k1 = nz))) (_ : ¬ ((i1 ≠ nx) ∧ (j1 = ny) ∧ (k1 = nz))) (_ : (i1 = nx) ∧ (j1 = ny) ∧ (k1 = nz)) :
    (2 ≤ (ny + 1)) := Idx.lastButOne

theorem vinterp3d_vinterp3d_L199c17_ctx0 (i1 i2 j1 j2 k1 k2 nx ny nz xsi ysi zsi : Int) (_ : 1 ≤ nx) (_ : 0 ≤ i1) (_ : i1 ≤ nx) (_ : i2 = i1 + 1) (_ : 1 ≤ ny) (_ : 0 ≤ j1) (_ : j1 ≤ ny) (_ : j2 = j1 + 1) (_ : 1 ≤ nz) (_ : 0 ≤ k1) (_ : k1 ≤ nz) (_ : k2 = k1 + 1) (_ : ¬ ((xsi = i1) ∧ (ysi = j1) ∧ (zsi = k1))) (_ : i2 = (i1 + 1)) (_ : j2 = (j1 + 1)) (_ : k2 = (k1 + 1)) (_ : ¬ ((i1 = nx) ∧ (j1 ≠ ny) ∧ (k1 ≠ nz))) (_ : ¬ ((i1 ≠ nx) ∧ (j1 = ny) ∧ (k1 ≠ nz))) (_ : ¬ ((i1 ≠ nx) ∧ (j1 ≠ ny) ∧ (k1 = nz))) (_ : ¬ ((i1 = nx) ∧ (j1 = ny) ∧ (k1 ≠ nz))) (_ : ¬ ((i1 = nx) ∧ (j1 ≠ ny) ∧ (k1 = nz))) (_ : ¬ ((i1 ≠ nx) ∧ (j1 = ny) ∧ (k1 = nz))) (_ : (i1 = nx) ∧ (j1 = ny) ∧ (k1 = nz)) :
    (0 ≤ k1 ∧ k1 < (nz + 1)) := Idx.node

theorem vinterp3d_vinterp3d_L200c28_ctx0 (i1 i2 j1 j2 k1 k2 nx ny nz xsi ysi zsi : Int) (_ : 1 ≤ nx) (_ : 0 ≤ i1) (_ : i1 ≤ nx) (_ : i2 = i1 + 1) (_ : 1 ≤ ny) (_ : 0 ≤ j1) (_ : j1 ≤ ny) (_ : j2 = j1 + 1) (_ : 1 ≤ nz) (_ : 0 ≤ k1) (_ : k1 ≤ nz) (_ : k2 = k1 + 1) (_ : ¬ ((xsi = i1) ∧ (ysi = j1) ∧ (zsi = k1))) (_ : i2 = (i1 + 1)) (_ : j2 = (j1 + 1)) (_ : k2 = (k1 + 1)) (_ : ¬ ((i1 = nx) ∧ (j1 ≠ ny) ∧ (k1 ≠ nz))) (_ : ¬ ((i1 ≠ nx) ∧ (j1 = ny) ∧ (k1 ≠ nz))) (_ : ¬ ((i1 ≠ nx) ∧ (j1 ≠ ny) ∧ (k1 = nz))) (_ : ¬ ((i1 = nx) ∧ (j1 = ny) ∧ (k1 ≠ nz))) (_ : ¬ ((i1 = nx) ∧ (j1 ≠ ny) ∧ (k1 = nz))) (_ : ¬ ((i1 ≠ nx) ∧ (j1 = ny) ∧ (k1 = nz))) (_ : (i1 = nx) ∧ (j1 = ny) ∧ (k1 = nz)) :
    (2 ≤ (nz + 1)) := Idx.lastButOne

theorem vinterp3d_vinterp3d_L211c19_ctx0 (i1 i2 j1 j2 k1 k2 nx ny nz xsi ysi zsi : Int) (_ : 1 ≤ nx) (_ : 0 ≤ i1) (_ : i1 ≤ nx) (_ : i2 = i1 + 1) (_ : 1 ≤ ny) (_ : 0 ≤ j1) (_ : j1 ≤ ny) (_ : j2 = j1 + 1) (_ : 1 ≤ nz) (_ : 0 ≤ k1) (_ : k1 ≤ nz) (_ : k2 = k1 + 1) (_ : ¬ ((xsi = i1) ∧ (ysi = j1) ∧ (zsi = k1))) (_ : i2 = (i1 + 1)) (_ : j2 = (j1 + 1)) (_ : k2 = (k1 + 1)) (_ : ¬ ((i1 = nx) ∧ (j1 ≠ ny) ∧ (k1 ≠ nz))) (_ : ¬ ((i1 ≠ nx) ∧ (j1 = ny) ∧ (k1 ≠ nz))) (_ : ¬ ((i1 ≠ nx) ∧ (j1 ≠ ny) ∧ (k1 = nz))) (_ : ¬ ((i1 = nx) ∧ (j1 = ny) ∧ (k1 ≠ nz))) (_ : ¬ ((i1 = nx) ∧ (j1 ≠ ny) ∧ (k1 = nz))) (_ : ¬ ((i1 ≠ nx) ∧ (j1 = ny) ∧ (k1 = nz))) (_ : (i1 = nx) ∧ (j1 = ny) ∧ (k1 = nz)) :
    (0 ≤ i1 ∧ i1 < (nx + 1)) ∧ (0 ≤ j1 ∧ j1 < (ny + 1)) ∧ (0 ≤ k1 ∧ k1 < (nz + 1)) := ⟨Idx.node, Idx.node, Idx.node⟩

theorem vinterp3d_vinterp3d_L221c17_ctx0 (i1 i2 j1 j2 k1 k2 nx ny nz xsi ysi zsi : Int) (_ : 1 ≤ nx) (_ : 0 ≤ i1) (_ : i1 ≤ nx) (_ : i2 = i1 + 1) (_ : 1 ≤ ny) (_ : 0 ≤ j1) (_ : j1 ≤ ny) (_ : j2 = j1 + 1) (_ : 1 ≤ nz) (_ : 0 ≤ k1) (_ : k1 ≤ nz) (_ : k2 = k1 + 1) (_ : ¬ ((xsi = i1) ∧ (ysi = j1) ∧ (zsi = k1))) (_ : i2 = (i1 + 1)) (_ : j2 = (j1 + 1)) (_ : k2 = (k1 + 1)) (_ : ¬ ((i1 = nx) ∧ (j1 ≠ ny) ∧ (k1 ≠ nz))) (_ : ¬ ((i1 ≠ nx) ∧ (j1 = ny) ∧ (k1 ≠ nz))) (_ : ¬ ((i1 ≠ nx) ∧ (j1 ≠ ny) ∧ (k1 = nz))) (_ : ¬ ((i1 = nx) ∧ (j1 = ny) ∧ (k1 ≠ nz))) (_ : ¬ ((i1 = nx) ∧ (j1 ≠ ny) ∧ (k1 = nz))) (_ : ¬ ((i1 ≠ nx) ∧ (j1 = ny) ∧ (k1 = nz))) (_ : ¬ ((i1 = nx) ∧ (j1 = ny) ∧ (k1 = nz))) :
    (0 ≤ i1 ∧ i1 < (nx + 1)) := Idx.node

theorem vinterp3d_vinterp3d_L222c17_ctx0 (i1 i2 j1 j2 k1 k2 nx ny nz xsi ysi zsi : Int) (_ : 1 ≤ nx) (_ : 0 ≤ i1) (_ : i1 ≤ nx) (_ : i2 = i1 + 1) (_ : 1 ≤ ny) (_ : 0 ≤ j1) (_ : j1 ≤ ny) (_ : j2 = j1 + 1) (_ : 1 ≤ nz) (_ : 0 ≤ k1) (_ : k1 ≤ nz) (_ : k2 = k1 + 1) (_ : ¬ ((xsi = i1) ∧ (ysi = j1) ∧ (zsi = k1))) (_ : i2 = (i1 + 1)) (_ : j2 = (j1 + 1)) (_ : k2 = (k1 + 1)) (_ : ¬ ((i1 = nx) ∧ (j1 ≠ ny) ∧ (k1 ≠ nz))) (_ : ¬ ((i1 ≠ nx) ∧ (j1 = ny) ∧ (k1 ≠ nz))) (_ : ¬ ((i1 ≠ nx) ∧ (j1 ≠ ny) ∧ (k1 = nz))) (_ : ¬ ((i1 = nx) ∧ (j1 = ny) ∧ (k1 ≠ nz))) (_ : ¬ ((i1 = nx) ∧ (j1 ≠ ny) ∧ (k1 = nz))) (_ : ¬ ((i1 ≠ nx) ∧ (j1 = ny) ∧ (k1 = nz))) (_ : ¬ ((i1 = nx) ∧ (j1 = ny) ∧ (k1 = nz))) :
    (0 ≤ i2 ∧ i2 < (nx + 1)) := by lia

theorem vinterp3d_vinterp3d_L223c17_ctx0 (i1 i2 j1 j2 k1 k2 nx ny nz xsi ysi zsi : Int) (_ : 1 ≤ nx) (_ : 0 ≤ i1) (_ : i1 ≤ nx) (_ : i2 = i1 + 1) (_ : 1 ≤ ny) (_ : 0 ≤ j1) (_ : j1 ≤ ny) (_ : j2 = j1 + 1) (_ : 1 ≤ nz) (_ : 0 ≤ k1) (_ : k1 ≤ nz) (_ : k2 = k1 + 1) (_ : ¬ ((xsi = i1) ∧ (ysi = j1) ∧ (zsi = k1))) (_ : i2 = (i1 + 1)) (_ : j2 = (j1 + 1)) (_ : k2 = (k1 + 1)) (_ : ¬ ((i1 = nx) ∧ (j1 ≠ ny) ∧ (k1 ≠ nz))) (_ : ¬ ((i1 ≠ nx) ∧ (j1 = ny) ∧ (k1 ≠ nz))) (_ : ¬ ((i1 ≠ nx) ∧ (j1 ≠ ny) ∧ (k1 = nz))) (_ : ¬ ((i1 = nx) ∧ (j1 = ny) ∧ (k1 ≠ nz))) (_ : ¬ ((i1 = nx) ∧ (j1 ≠ ny) ∧ (k1 = nz))) (_ : ¬ ((i1 ≠ nx) ∧ (j1 = ny) ∧ (k1 = nz))) (_ : ¬ ((i1 = nx) ∧ (j1 = ny) ∧ (k1 = nz))) :
    (0 ≤ j1 ∧ j1 < (ny + 1)) := Idx.node

theorem vinterp3d_vinterp3d_L224c17_ctx0 (i1 i2 j1 j2 k1 k2 nx ny nz xsi ysi zsi : Int) (_ : 1 ≤ nx) (_ : 0 ≤ i1) (_ : i1 ≤ nx) (_ : i2 = i1 + 1) (_ : 1 ≤ ny) (_ : 0 ≤ j1) (_ : j1 ≤ ny) (_ : j2 = j1 + 1) (_ : 1 ≤ nz) (_ : 0 ≤ k1) (_ : k1 ≤ nz) (_ : k2 = k1 + 1) (_ : ¬ ((xsi = i1) ∧ (ysi = j1) ∧ (zsi = k1))) (_ : i2 = (i1 + 1)) (_ : j2 = (j1 + 1)) (_ : k2 = (k1 + 1)) (_ : ¬ ((i1 = nx) ∧ (j1 ≠ ny) ∧ (k1 ≠ nz))) (_ : ¬ ((i1 ≠ nx) ∧ (j1 = ny) ∧ (k1 ≠ nz))) (_ : ¬ ((i1 ≠ nx) ∧ (j1 ≠ ny) ∧ (k1 = nz))) (_ : ¬ ((i1 = nx) ∧ (j1 = ny) ∧ (k1 ≠ nz))) (_ : ¬ ((i1 = nx) ∧ (j1 ≠ ny) ∧ (k1 = nz))) (_ : ¬ ((i1 ≠ nx) ∧ (j1 = ny) ∧ (k1 = nz))) (_ : ¬ ((i1 = nx) ∧ (j1 = ny) ∧ (k1 = nz))) :
    (0 ≤ j2 ∧ j2 < (ny + 1)) := by lia

theorem vinterp3d_vinterp3d_L225c17_ctx0 (i1 i2 j1 j2 k1 k2 nx ny nz xsi ysi zsi : Int) (_ : 1 ≤ nx) (_ : 0 ≤ i1) (_ : i1 ≤ nx) (_ : i2 = i1 + 1) (_ : 1 ≤ ny) (_ : 0 ≤ j1) (_ : j1 ≤ ny) (_ : j2 = j1 + 1) (_ : 1 ≤ nz) (_ : 0 ≤ k1) (_ : k1 ≤ nz) (_ : k2 = k1 + 1) (_ : ¬ ((xsi = i1) ∧ (ysi = j1) ∧ (zsi = k1))) (_ : i2 = (i1 + 1)) (_ : j2 = (j1 + 1)) (_ : k2 = (k1 + 1)) (_ : ¬ ((i1 = nx) ∧ (j1 ≠ ny) ∧ (k1 ≠ nz))) (_ : ¬ ((i1 ≠ nx) ∧ (j1 = ny) ∧ (k1 ≠ nz))) (_ : ¬ ((i1 ≠ nx) ∧ (j1 ≠ ny) ∧ (k1 = nz))) (_ : ¬ ((i1 = nx) ∧ (j1 = ny) ∧ (k1 ≠ nz))) (_ : ¬ ((i1 = nx) ∧ (j1 ≠ ny) ∧ (k1 = nz))) (_ : ¬ ((i1 ≠ nx) ∧ (j1 = ny) ∧ (k1 = nz))) (_ : ¬ ((i1 = nx) ∧ (j1 = ny) ∧ (k1 = nz))) :
    (0 ≤ k1 ∧ k1 < (nz + 1)) := Idx.node

theorem vinterp3d_vinterp3d_L226c17_ctx0 (i1 i2 j1 j2 k1 k2 nx ny nz xsi ysi zsi : Int) (_ : 1 ≤ nx) (_ : 0 ≤ i1) (_ : i1 ≤ nx) (_ : i2 = i1 + 1) (_ : 1 ≤ ny) (_ : 0 ≤ j1) (_ : j1 ≤ ny) (_ : j2 = j1 + 1) (_ : 1 ≤ nz) (_ : 0 ≤ k1) (_ : k1 ≤ nz) (_ : k2 = k1 + 1) (_ : ¬ ((xsi = i1) ∧ (ysi = j1) ∧ (zsi = k1))) (_ : i2 = (i1 + 1)) (_ : j2 = (j1 + 1)) (_ : k2 = (k1 + 1)) (_ : ¬ ((i1 = nx) ∧ (j1 ≠ ny) ∧ (k1 ≠ nz))) (_ : ¬ ((i1 ≠ nx) ∧ (j1 = ny) ∧ (k1 ≠ nz))) (_ : ¬ ((i1 ≠ nx) ∧ (j1 ≠ ny) ∧ (k1 = nz))) (_ : ¬ ((i1 = nx) ∧ (j1 = ny) ∧ (k1 ≠ nz))) (_ : ¬ ((i1 = nx) ∧ (j1 ≠ ny) ∧ (k1 = nz))) (_ : ¬ ((i1 ≠ nx) ∧ (j1 = ny) ∧ (k1 = nz))) (_ : ¬ ((i1 = nx) ∧ (j1 = ny) ∧ (k1 = nz))) :
    (0 ≤ k2 ∧ k2 < (nz + 1)) := by lia

theorem vinterp3d_vinterp3d_L237c19_ctx0 (i1 i2 j1 j2 k1 k2 nx ny nz xsi ysi zsi : Int) (_ : 1 ≤ nx) (_ : 0 ≤ i1) (_ : i1 ≤ nx) (_ : i2 = i1 + 1) (_ : 1 ≤ ny) (_ : 0 ≤ j1) (_ : j1 ≤ ny) (_ : j2 = j1 + 1) (_ : 1 ≤ nz) (_ : 0 ≤ k1) (_ : k1 ≤ nz) (_ : k2 = k1 + 1) (_ : ¬ ((xsi = i1) ∧ (ysi = j1) ∧ (zsi = k1))) (_ : i2 = (i1 + 1)) (_ : j2 = (j1 + 1)) (_ : k2 = (k1 + 1)) (_ : ¬ ((i1 = nx) ∧ (j1 ≠ ny) ∧ (k1 ≠ nz))) (_ : ¬ ((i1 ≠ nx) ∧ (j1 = ny) ∧ (k1 ≠ nz))) (_ : ¬ ((i1 ≠ nx) ∧ (j1 ≠ ny) ∧ (k1 = nz))) (_ : ¬ ((i1 = nx) ∧ (j1 = ny) ∧ (k1 ≠ nz))) (_ : ¬ ((i1 = nx) ∧ (j1 ≠ ny) ∧ (k1 = nz))) (_ : ¬ ((i1 ≠ nx) ∧ (j1 = ny) ∧ (k1 = nz))) (_ : ¬ ((i1 = nx) ∧ (j1 = ny) ∧ (k1 = nz))) :
    (0 ≤ i1 ∧ i1 < (nx + 1)) ∧ (0 ≤ j1 ∧ j1 < (ny + 1)) ∧ (0 ≤ k1 ∧ k1 < (nz + 1)) := ⟨Idx.node, Idx.node, Idx.node⟩

theorem vinterp3d_vinterp3d_L238c19_ctx0 (i1 i2 j1 j2 k1 k2 nx ny nz xsi ysi zsi : Int) (_ : 1 ≤ nx) (_ : 0 ≤ i1) (_ : i1 ≤ nx) (_ : i2 = i1 + 1) (_ : 1 ≤ ny) (_ : 0 ≤ j1) (_ : j1 ≤ ny) (_ : j2 = j1 + 1) (_ : 1 ≤ nz) (_ : 0 ≤ k1) (_ : k1 ≤ nz) (_ : k2 = k1 + 1) (_ : ¬ ((xsi = i1) ∧ (ysi = j1) ∧ (zsi = k1))) (_ : i2 = (i1 + 1)) (_ : j2 = (j1 + 1)) (_ : k2 = (k1 + 1)) (_ : ¬ ((i1 = nx) ∧ (j1 ≠ ny) ∧ (k1 ≠ nz))) (_ : ¬ ((i1 ≠ nx) ∧ (j1 = ny) ∧ (k1 ≠ nz))) (_ : ¬ ((i1 ≠ nx) ∧ (j1 ≠ ny) ∧ (k1 = nz))) (_ : ¬ ((i1 = nx) ∧ (j1 = ny) ∧ (k1 ≠ nz))) (_ : ¬ ((i1 = nx) ∧ (j1 ≠ ny) ∧ (k1 = nz))) (_ : ¬ ((i1 ≠ nx) ∧ (j1 = ny) ∧ (k1 = nz))) (_ : ¬ ((i1 = nx) ∧ (j1 = ny) ∧ (k1 = nz))) :
    (0 ≤ i2 ∧ i2 < (nx + 1)) ∧ (0 ≤ j1 ∧ j1 < (ny + 1)) ∧ (0 ≤ k1 ∧ k1 < (nz + 1)) := ⟨by lia, Idx.node, Idx.node⟩

theorem vinterp3d_vinterp3d_L239c19_ctx0 (i1 i2 j1 j2 k1 k2 nx ny nz xsi ysi zsi : Int) (_ : 1 ≤ nx) (_ : 0 ≤ i1) (_ : i1 ≤ nx) (_ : i2 = i1 + 1) (_ : 1 ≤ ny) (_ : 0 ≤ j1) (_ : j1 ≤ ny) (_ : j2 = j1 + 1) (_ : 1 ≤ nz) (_ : 0 ≤ k1) (_ : k1 ≤ nz) (_ : k2 = k1 + 1) (_ : ¬ ((xsi = i1) ∧ (ysi = j1) ∧ (zsi = k1))) (_ : i2 = (i1 + 1)) (_ : j2 = (j1 + 1)) (_ : k2 = (k1 + 1)) (_ : ¬ ((i1 = nx) ∧ (j1 ≠ ny) ∧ (k1 ≠ nz))) (_ : ¬ ((i1 ≠ nx) ∧ (j1 = ny) ∧ (k1 ≠ nz))) (_ : ¬ ((i1 ≠ nx) ∧ (j1 ≠ ny) ∧ (k1 = nz))) (_ : ¬ ((i1 = nx) ∧ (j1 = ny) ∧ (k1 ≠ nz))) (_ : ¬ ((i1 = nx) ∧ (j1 ≠ ny) ∧ (k1 = nz))) (_ : ¬ ((i1 ≠ nx) ∧ (j1 = ny) ∧ (k1 = nz))) (_ : ¬ ((i1 = nx) ∧ (j1 = ny) ∧ (k1 = nz))) :
    (0 ≤ i1 ∧ i1 < (nx + 1)) ∧ (0 ≤ j2 ∧ j2 < (ny + 1)) ∧ (0 ≤ k1 ∧ k1 < (nz + 1)) := ⟨Idx.node, by lia, Idx.node⟩

theorem vinterp3d_vinterp3d_L240c19_ctx0 (i1 i2 j1 j2 k1 k2 nx ny nz xsi ysi zsi : Int) (_ : 1 ≤ nx) (_ : 0 ≤ i1) (_ : i1 ≤ nx) (_ : i2 = i1 + 1) (_ : 1 ≤ ny) (_ : 0 ≤ j1) (_ : j1 ≤ ny) (_ : j2 = j1 + 1) (_ : 1 ≤ nz) (_ : 0 ≤ k1) (_ : k1 ≤ nz) (_ : k2 = k1 + 1) (_ : ¬ ((xsi = i1) ∧ (ysi = j1) ∧ (zsi = k1))) (_ : i2 = (i1 + 1)) (_ : j2 = (j1 + 1)) (_ : k2 = (k1 + 1)) (_ : ¬ ((i1 = nx) ∧ (j1 ≠ ny) ∧ (k1 ≠ nz))) (_ : ¬ ((i1 ≠ nx) ∧ (j1 = ny) ∧ (k1 ≠ nz))) (_ : ¬ ((i1 ≠ nx) ∧ (j1 ≠ ny) ∧ (k1 = nz))) (_ : ¬ ((i1 = nx) ∧ (j1 = ny) ∧ (k1 ≠ nz))) (_ : ¬ ((i1 = nx) ∧ (j1 ≠ ny) ∧ (k1 = nz))) (_ : ¬ ((i1 ≠ nx) ∧ (j1 = ny) ∧ (k1 = nz))) (_ : ¬ ((i1 = nx) ∧ (j1 = ny) ∧ (k1 = nz))) :
    (0 ≤ i2 ∧ i2 < (nx + 1)) ∧ (0 ≤ j2 ∧ j2 < (ny + 1)) ∧ (0 ≤ k1 ∧ k1 < (nz + 1)) := ⟨by lia, by lia, Idx.node⟩

theorem vinterp3d_vinterp3d_L241c19_ctx0 (i1 i2 j1 j2 k1 k2 nx ny nz xsi ysi zsi : Int) (_ : 1 ≤ nx) (_ : 0 ≤ i1) (_ : i1 ≤ nx) (_ : i2 = i1 + 1) (_ : 1 ≤ ny) (_ : 0 ≤ j1) (_ : j1 ≤ ny) (_ : j2 = j1 + 1) (_ : 1 ≤ nz) (_ : 0 ≤ k1) (_ : k1 ≤ nz) (_ : k2 = k1 + 1) (_ : ¬ ((xsi = i1) ∧ (ysi = j1) ∧ (zsi = k1))) (_ : i2 = (i1 + 1)) (_ : j2 = (j1 + 1)) (_ : k2 = (k1 + 1)) (_ : ¬ ((i1 = nx) ∧ (j1 ≠ ny) ∧ (k1 ≠ nz))) (_ : ¬ ((i1 ≠ nx) ∧ (j1 = ny) ∧ (k1 ≠ nz))) (_ : ¬ ((i1 ≠ nx) ∧ (j1 ≠ ny) ∧ (k1 = nz))) (_ : ¬ ((i1 = nx) ∧ (j1 = ny) ∧ (k1 ≠ nz))) (_ : ¬ ((i1 = nx) ∧ (j1 ≠ ny) ∧ (k1 = nz))) (_ : ¬ ((i1 ≠ nx) ∧ (j1 = ny) ∧ (k1 = nz))) (_ : ¬ ((i1 = nx) ∧ (j1 = ny) ∧ (k1 = nz))) :
    (0 ≤ i1 ∧ i1 < (nx + 1)) ∧ (0 ≤ j1 ∧ j1 < (ny + 1)) ∧ (0 ≤ k2 ∧ k2 < (nz + 1)) := ⟨Idx.node, Idx.node, by lia⟩

theorem vinterp3d_vinterp3d_L242c19_ctx0 (i1 i2 j1 j2 k1 k2 nx ny nz xsi ysi zsi : Int) (_ : 1 ≤ nx) (_ : 0 ≤ i1) (_ : i1 ≤ nx) (_ : i2 = i1 + 1) (_ : 1 ≤ ny) (_ : 0 ≤ j1) (_ : j1 ≤ ny) (_ : j2 = j1 + 1) (_ : 1 ≤ nz) (_ : 0 ≤ k1) (_ : k1 ≤ nz) (_ : k2 = k1 + 1) (_ : ¬ ((xsi = i1) ∧ (ysi = j1) ∧ (zsi = k1))) (_ : i2 = (i1 + 1)) (_ : j2 = (j1 + 1)) (_ : k2 = (k1 + 1)) (_ : ¬ ((i1 = nx) ∧ (j1 ≠ ny) ∧ (k1 ≠ nz))) (_ : ¬ ((i1 ≠ nx) ∧ (j1 = ny) ∧ (k1 ≠ nz))) (_ : ¬ ((i1 ≠ nx) ∧ (j1 ≠ ny) ∧ (k1 = nz))) (_ : ¬ ((i1 = nx) ∧ (j1 = ny) ∧ (k1 ≠ nz))) (_ : ¬ ((i1 = nx) ∧ (j1 ≠ ny) ∧ (k1 = nz))) (_ : ¬ ((i1 ≠ nx) ∧ (j1 = ny) ∧ (k1 = nz))) (_ : ¬ ((i1 = nx) ∧ (j1 = ny) ∧ (k1 = nz))) :
    (0 ≤ i2 ∧ i2 < (nx + 1)) ∧ (0 ≤ j1 ∧ j1 < (ny + 1)) ∧ (0 ≤ k2 ∧ k2 < (nz + 1)) := ⟨by lia, Idx.node, by lia⟩

theorem vinterp3d_vinterp3d_L243c19_ctx0 (i1 i2 j1 j2 k1 k2 nx ny nz xsi ysi zsi : Int) (_ : 1 ≤ nx) (_ : 0 ≤ i1) (_ : i1 ≤ nx) (_ : i2 = i1 + 1) (_ : 1 ≤ ny) (_ : 0 ≤ j1) (_ : j1 ≤ ny) (_ : j2 = j1 + 1) (_ : 1 ≤ nz) (_ : 0 ≤ k1) (_ : k1 ≤ nz) (_ : k2 = k1 + 1) (_ : ¬ ((xsi = i1) ∧ (ysi = j1) ∧ (zsi = k1))) (_ : i2 = (i1 + 1)) (_ : j2 = (j1 + 1)) (_ : k2 = (k1 + 1)) (_ : ¬ ((i1 = nx) ∧ (j1 ≠ ny) ∧ (k1 ≠ nz))) (_ : ¬ ((i1 ≠ nx) ∧ (j1 = ny) ∧ (k1 ≠ nz))) (_ : ¬ ((i1 ≠ nx) ∧ (j1 ≠ ny) ∧ (k1 = nz))) (_ : ¬ ((i1 = nx) ∧ (j1 = ny) ∧ (k1 ≠ nz))) (_ : ¬ ((i1 = nx) ∧ (j1 ≠ ny) ∧ (k1 = nz))) (_ : ¬ ((i1 ≠ nx) ∧ (j1 = ny) ∧ (k1 = nz))) (_ : ¬ ((i1 = nx) ∧ (j1 = ny) ∧ (k1 = nz))) :
    (0 ≤ i1 ∧ i1 < (nx + 1)) ∧ (0 ≤ j2 ∧ j2 < (ny + 1)) ∧ (0 ≤ k2 ∧ k2 < (nz + 1)) := ⟨Idx.node, by lia, by lia⟩

theorem vinterp3d_vinterp3d_L244c19_ctx0 (i1 i2 j1 j2 k1 k2 nx ny nz xsi ysi zsi : Int) (_ : 1 ≤ nx) (_ : 0 ≤ i1) (_ : i1 ≤ nx) (_ : i2 = i1 + 1) (_ : 1 ≤ ny) (_ : 0 ≤ j1) (_ : j1 ≤ ny) (_ : j2 = j1 + 1) (_ : 1 ≤ nz) (_ : 0 ≤ k1) (_ : k1 ≤ nz) (_ : k2 = k1 + 1) (_ : ¬ ((xsi = i1) ∧ (ysi = j1) ∧ (zsi = k1))) (_ : i2 = (i1 + 1)) (_ : j2 = (j1 + 1)) (_ : k2 = (k1 + 1)) (_ : ¬ ((i1 = nx) ∧ (j1 ≠ ny) ∧ (k1 ≠ nz))) (_ : ¬ ((i1 ≠ nx) ∧ (j1 = ny) ∧ (k1 ≠ nz))) (_ : ¬ ((i1 ≠ nx) ∧ (j1 ≠ ny) ∧ (k1 = nz))) (_ : ¬ ((i1 = nx) ∧ (j1 = ny) ∧ (k1 ≠ nz))) (_ : ¬ ((i1 = nx) ∧ (j1 ≠ ny) ∧ (k1 = nz))) (_ : ¬ ((i1 ≠ nx) ∧ (j1 = ny) ∧ (k1 = nz))) (_ : ¬ ((i1 = nx) ∧ (j1 = ny) ∧ (k1 = nz))) :
    (0 ≤ i2 ∧ i2 < (nx + 1)) ∧ (0 ≤ j2 ∧ j2 < (ny + 1)) ∧ (0 ≤ k2 ∧ k2 < (nz + 1)) := by lia

theorem ray2d_ray2d_status_L24c12_ctx0 (count i j max_step nx nz : Int) (_ : 2 ≤ nz) (_ : 0 ≤ i) (_ : i ≤ nz - 1) (_ : 2 ≤ nx) (_ : 0 ≤ j) (_ : j ≤ nx - 1) (_ : 1 ≤ count) (_ : 1 ≤ max_step) :
    (0 ≤ 0 ∧ 0 < nz) := Idx.axis_first

theorem ray2d_ray2d_status_L24c28_ctx0 (count i j max_step nx nz : Int) (_ : 2 ≤ nz) (_ : 0 ≤ i) (_ : i ≤ nz - 1) (_ : 2 ≤ nx) (_ : 0 ≤ j) (_ : j ≤ nx - 1) (_ : 1 ≤ count) (_ : 1 ≤ max_step) :
    (1 ≤ nz) := Idx.axis_last

theorem ray2d_ray2d_status_L25c12_ctx0 (count i j max_step nx nz : Int) (_ : 2 ≤ nz) (_ : 0 ≤ i) (_ : i ≤ nz - 1) (_ : 2 ≤ nx) (_ : 0 ≤ j) (_ : j ≤ nx - 1) (_ : 1 ≤ count) (_ : 1 ≤ max_step) :
    (0 ≤ 0 ∧ 0 < nx) := Idx.axis_first

theorem ray2d_ray2d_status_L25c28_ctx0 (count i j max_step nx nz : Int) (_ : 2 ≤ nz) (_ : 0 ≤ i) (_ : i ≤ nz - 1) (_ : 2 ≤ nx) (_ : 0 ≤ j) (_ : j ≤ nx - 1) (_ : 1 ≤ count) (_ : 1 ≤ max_step) :
    (1 ≤ nx) := Idx.axis_last

theorem ray2d_ray2d_status_L34c15_ctx0 (count i j max_step nx nz : Int) (_ : 2 ≤ nz) (_ : 0 ≤ i) (_ : i ≤ nz - 1) (_ : 2 ≤ nx) (_ : 0 ≤ j) (_ : j ≤ nx - 1) (_ : 1 ≤ count) (_ : 1 ≤ max_step) :
    (0 ≤ (max (i - 1) 0) ∧ (max (i - 1) 0) < nz) := Idx.cell_below

theorem ray2d_ray2d_status_L34c53_ctx0 (count i j max_step nx nz : Int) (_ : 2 ≤ nz) (_ : 0 ≤ i) (_ : i ≤ nz - 1) (_ : 2 ≤ nx) (_ : 0 ≤ j) (_ : j ≤ nx - 1) (_ : 1 ≤ count) (_ : 1 ≤ max_step) :
    (0 ≤ i ∧ i < nz) := Idx.cell

theorem ray2d_ray2d_status_L34c43_ctx0 (count i j max_step nx nz : Int) (_ : 2 ≤ nz) (_ : 0 ≤ i) (_ : i ≤ nz - 1) (_ : 2 ≤ nx) (_ : 0 ≤ j) (_ : j ≤ nx - 1) (_ : 1 ≤ count) (_ : 1 ≤ max_step) :
    (0 ≤ i ∧ i < nz) := Idx.cell

theorem ray2d_ray2d_status_L35c15_ctx0 (count i j max_step nx nz : Int) (_ : 2 ≤ nz) (_ : 0 ≤ i) (_ : i ≤ nz - 1) (_ : 2 ≤ nx) (_ : 0 ≤ j) (_ : j ≤ nx - 1) (_ : 1 ≤ count) (_ : 1 ≤ max_step) :
    (0 ≤ (max (j - 1) 0) ∧ (max (j - 1) 0) < nx) := Idx.cell_below

theorem ray2d_ray2d_status_L35c53_ctx0 (count i j max_step nx nz : Int) (_ : 2 ≤ nz) (_ : 0 ≤ i) (_ : i ≤ nz - 1) (_ : 2 ≤ nx) (_ : 0 ≤ j) (_ : j ≤ nx - 1) (_ : 1 ≤ count) (_ : 1 ≤ max_step) :
    (0 ≤ j ∧ j < nx) := Idx.cell

theorem ray2d_ray2d_status_L35c43_ctx0 (count i j max_step nx nz : Int) (_ : 2 ≤ nz) (_ : 0 ≤ i) (_ : i ≤ nz - 1) (_ : 2 ≤ nx) (_ : 0 ≤ j) (_ : j ≤ nx - 1) (_ : 1 ≤ count) (_ : 1 ≤ max_step) :
    (0 ≤ j ∧ j < nx) := Idx.cell

theorem ray2d_ray2d_status_L37c26_ctx0 (count i j max_step nx nz : Int) (_ : 2 ≤ nz) (_ : 0 ≤ i) (_ : i ≤ nz - 1) (_ : 2 ≤ nx) (_ : 0 ≤ j) (_ : j ≤ nx - 1) (_ : 1 ≤ count) (_ : 1 ≤ max_step) :
    (0 ≤ (min (i + 1) (nz - 1)) ∧ (min (i + 1) (nz - 1)) < nz) := Idx.cell_above

theorem ray2d_ray2d_status_L37c49_ctx0 (count i j max_step nx nz : Int) (_ : 2 ≤ nz) (_ : 0 ≤ i) (_ : i ≤ nz - 1) (_ : 2 ≤ nx) (_ : 0 ≤ j) (_ : j ≤ nx - 1) (_ : 1 ≤ count) (_ : 1 ≤ max_step) :
    (0 ≤ (min (j + 1) (nx - 1)) ∧ (min (j + 1) (nx - 1)) < nx) := Idx.cell_above

theorem ray2d_ray2d_status_L46c4_ctx0 (count i j max_step nx nz : Int) (_ : 2 ≤ nz) (_ : 0 ≤ i) (_ : i ≤ nz - 1) (_ : 2 ≤ nx) (_ : 0 ≤ j) (_ : j ≤ nx - 1) (_ : 1 ≤ count) (_ : 1 ≤ max_step) (_ : count = 1) :
    (0 ≤ 0 ∧ 0 < max_step) := by lia

theorem ray2d_ray2d_status_L47c29_ctx0 (count i j max_step nx nz : Int) (_ : 2 ≤ nz) (_ : 0 ≤ i) (_ : i ≤ nz - 1) (_ : 2 ≤ nx) (_ : 0 ≤ j) (_ : j ≤ nx - 1) (_ : 1 ≤ count) (_ : 1 ≤ max_step) :
    (0 ≤ 0 ∧ 0 < 2) := by decide

theorem ray2d_ray2d_status_L47c38_ctx0 (count i j max_step nx nz : Int) (_ : 2 ≤ nz) (_ : 0 ≤ i) (_ : i ≤ nz - 1) (_ : 2 ≤ nx) (_ : 0 ≤ j) (_ : j ≤ nx - 1) (_ : 1 ≤ count) (_ : 1 ≤ max_step) :
    (0 ≤ 1 ∧ 1 < 2) := by decide

theorem ray2d_ray2d_status_L60c8_ctx0 (count i j max_step nx nz : Int) (_ : 2 ≤ nz) (_ : 0 ≤ i) (_ : i ≤ nz - 1) (_ : 2 ≤ nx) (_ : 0 ≤ j) (_ : j ≤ nx - 1) (_ : 1 ≤ count) (_ : 1 ≤ max_step) (_ : ¬ (count ≥ max_step)) :
    (0 ≤ 0 ∧ 0 < 2) := by decide

theorem ray2d_ray2d_status_L61c8_ctx0 (count i j max_step nx nz : Int) (_ : 2 ≤ nz) (_ : 0 ≤ i) (_ : i ≤ nz - 1) (_ : 2 ≤ nx) (_ : 0 ≤ j) (_ : j ≤ nx - 1) (_ : 1 ≤ count) (_ : 1 ≤ max_step) (_ : ¬ (count ≥ max_step)) :
    (0 ≤ 1 ∧ 1 < 2) := by decide

theorem ray2d_ray2d_status_L66c12_ctx0 (count i j max_step nx nz : Int) (_ : 2 ≤ nz) (_ : 0 ≤ i) (_ : i ≤ nz - 1) (_ : 2 ≤ nx) (_ : 0 ≤ j) (_ : j ≤ nx - 1) (_ : 1 ≤ count) (_ : 1 ≤ max_step) (_ : ¬ (count ≥ max_step)) :
    (0 ≤ 0 ∧ 0 < 2) := by decide

theorem ray2d_ray2d_status_L66c46_ctx0 (count i j max_step nx nz : Int) (_ : 2 ≤ nz) (_ : 0 ≤ i) (_ : i ≤ nz - 1) (_ : 2 ≤ nx) (_ : 0 ≤ j) (_ : j ≤ nx - 1) (_ : 1 ≤ count) (_ : 1 ≤ max_step) (_ : ¬ (count ≥ max_step)) :
    (1 ≤ nz) := Idx.axis_last

theorem ray2d_ray2d_status_L66c30_ctx0 (count i j max_step nx nz : Int) (_ : 2 ≤ nz) (_ : 0 ≤ i) (_ : i ≤ nz - 1) (_ : 2 ≤ nx) (_ : 0 ≤ j) (_ : j ≤ nx - 1) (_ : 1 ≤ count) (_ : 1 ≤ max_step) (_ : ¬ (count ≥ max_step)) :
    (0 ≤ 0 ∧ 0 < 2) := by decide

theorem ray2d_ray2d_status_L66c39_ctx0 (count i j max_step nx nz : Int) (_ : 2 ≤ nz) (_ : 0 ≤ i) (_ : i ≤ nz - 1) (_ : 2 ≤ nx) (_ : 0 ≤ j) (_ : j ≤ nx - 1) (_ : 1 ≤ count) (_ : 1 ≤ max_step) (_ : ¬ (count ≥ max_step)) :
    (0 ≤ 0 ∧ 0 < nz) := Idx.axis_first

theorem ray2d_ray2d_status_L67c12_ctx0 (count i j max_step nx nz : Int) (_ : 2 ≤ nz) (_ : 0 ≤ i) (_ : i ≤ nz - 1) (_ : 2 ≤ nx) (_ : 0 ≤ j) (_ : j ≤ nx - 1) (_ : 1 ≤ count) (_ : 1 ≤ max_step) (_ : ¬ (count ≥ max_step)) :
    (0 ≤ 1 ∧ 1 < 2) := by decide

theorem ray2d_ray2d_status_L67c46_ctx0 (count i j max_step nx nz : Int) (_ : 2 ≤ nz) (_ : 0 ≤ i) (_ : i ≤ nz - 1) (_ : 2 ≤ nx) (_ : 0 ≤ j) (_ : j ≤ nx - 1) (_ : 1 ≤ count) (_ : 1 ≤ max_step) (_ : ¬ (count ≥ max_step)) :
    (1 ≤ nx) := Idx.axis_last

theorem ray2d_ray2d_status_L67c30_ctx0 (count i j max_step nx nz : Int) (_ : 2 ≤ nz) (_ : 0 ≤ i) (_ : i ≤ nz - 1) (_ : 2 ≤ nx) (_ : 0 ≤ j) (_ : j ≤ nx - 1) (_ : 1 ≤ count) (_ : 1 ≤ max_step) (_ : ¬ (count ≥ max_step)) :
    (0 ≤ 1 ∧ 1 < 2) := by decide

theorem ray2d_ray2d_status_L67c39_ctx0 (count i j max_step nx nz : Int) (_ : 2 ≤ nz) (_ : 0 ≤ i) (_ : i ≤ nz - 1) (_ : 2 ≤ nx) (_ : 0 ≤ j) (_ : j ≤ nx - 1) (_ : 1 ≤ count) (_ : 1 ≤ max_step) (_ : ¬ (count ≥ max_step)) :
    (0 ≤ 0 ∧ 0 < nx) := Idx.axis_first

theorem ray2d_ray2d_status_L72c30_ctx0 (count i ix j max_step nx nz : Int) (_ : 2 ≤ nz) (_ : 0 ≤ i) (_ : i ≤ nz - 1) (_ : 2 ≤ nx) (_ : 0 ≤ j) (_ : j ≤ nx - 1) (_ : 1 ≤ count) (_ : 1 ≤ max_step) (_ : ¬ (count ≥ max_step)) (_ : 0 ≤ ix) (_ : ix < 2) :
    (0 ≤ ix ∧ ix < 2) := Idx.range

theorem ray2d_ray2d_status_L72c41_ctx0 (count i ix j max_step nx nz : Int) (_ : 2 ≤ nz) (_ : 0 ≤ i) (_ : i ≤ nz - 1) (_ : 2 ≤ nx) (_ : 0 ≤ j) (_ : j ≤ nx - 1) (_ : 1 ≤ count) (_ : 1 ≤ max_step) (_ : ¬ (count ≥ max_step)) (_ : 0 ≤ ix) (_ : ix < 2) :
    (0 ≤ ix ∧ ix < 2) := Idx.range

theorem ray2d_ray2d_status_L73c24_ctx0 (count i ix j max_step nx nz : Int) (_ : 2 ≤ nz) (_ : 0 ≤ i) (_ : i ≤ nz - 1) (_ : 2 ≤ nx) (_ : 0 ≤ j) (_ : j ≤ nx - 1) (_ : 1 ≤ count) (_ : 1 ≤ max_step) (_ : ¬ (count ≥ max_step)) (_ : 0 ≤ ix) (_ : ix < 2) :
    (0 ≤ ix ∧ ix < 2) := Idx.range

theorem ray2d_ray2d_status_L73c35_ctx0 (count i ix j max_step nx nz : Int) (_ : 2 ≤ nz) (_ : 0 ≤ i) (_ : i ≤ nz - 1) (_ : 2 ≤ nx) (_ : 0 ≤ j) (_ : j ≤ nx - 1) (_ : 1 ≤ count) (_ : 1 ≤ max_step) (_ : ¬ (count ≥ max_step)) (_ : 0 ≤ ix) (_ : ix < 2) :
    (0 ≤ ix ∧ ix < 2) := Idx.range

theorem ray2d_ray2d_status_L75c32_ctx0 (count i ix j max_step nx nz : Int) (_ : 2 ≤ nz) (_ : 0 ≤ i) (_ : i ≤ nz - 1) (_ : 2 ≤ nx) (_ : 0 ≤ j) (_ : j ≤ nx - 1) (_ : 1 ≤ count) (_ : 1 ≤ max_step) (_ : ¬ (count ≥ max_step)) (_ : 0 ≤ ix) (_ : ix < 2) :
    (0 ≤ ix ∧ ix < 2) := Idx.range

theorem ray2d_ray2d_status_L75c43_ctx0 (count i ix j max_step nx nz : Int) (_ : 2 ≤ nz) (_ : 0 ≤ i) (_ : i ≤ nz - 1) (_ : 2 ≤ nx) (_ : 0 ≤ j) (_ : j ≤ nx - 1) (_ : 1 ≤ count) (_ : 1 ≤ max_step) (_ : ¬ (count ≥ max_step)) (_ : 0 ≤ ix) (_ : ix < 2) :
    (0 ≤ ix ∧ ix < 2) := Idx.range

theorem ray2d_ray2d_status_L76c24_ctx0 (count i ix j max_step nx nz : Int) (_ : 2 ≤ nz) (_ : 0 ≤ i) (_ : i ≤ nz - 1) (_ : 2 ≤ nx) (_ : 0 ≤ j) (_ : j ≤ nx - 1) (_ : 1 ≤ count) (_ : 1 ≤ max_step) (_ : ¬ (count ≥ max_step)) (_ : 0 ≤ ix) (_ : ix < 2) :
    (0 ≤ ix ∧ ix < 2) := Idx.range

theorem ray2d_ray2d_status_L76c35_ctx0 (count i ix j max_step nx nz : Int) (_ : 2 ≤ nz) (_ : 0 ≤ i) (_ : i ≤ nz - 1) (_ : 2 ≤ nx) (_ : 0 ≤ j) (_ : j ≤ nx - 1) (_ : 1 ≤ count) (_ : 1 ≤ max_step) (_ : ¬ (count ≥ max_step)) (_ : 0 ≤ ix) (_ : ix < 2) :
    (0 ≤ ix ∧ ix < 2) := Idx.range

theorem ray2d_ray2d_status_L78c39_ctx0 (count i j max_step nx nz : Int) (_ : 2 ≤ nz) (_ : 0 ≤ i) (_ : i ≤ nz - 1) (_ : 2 ≤ nx) (_ : 0 ≤ j) (_ : j ≤ nx - 1) (_ : 1 ≤ count) (_ : 1 ≤ max_step) (_ : ¬ (count ≥ max_step)) :
    (0 ≤ 0 ∧ 0 < 2) := by decide

theorem ray2d_ray2d_status_L79c39_ctx0 (count i j max_step nx nz : Int) (_ : 2 ≤ nz) (_ : 0 ≤ i) (_ : i ≤ nz - 1) (_ : 2 ≤ nx) (_ : 0 ≤ j) (_ : j ≤ nx - 1) (_ : 1 ≤ count) (_ : 1 ≤ max_step) (_ : ¬ (count ≥ max_step)) :
    (0 ≤ 1 ∧ 1 < 2) := by decide

theorem ray2d_ray2d_status_L80c16_ctx0 (count i j max_step nx nz : Int) (_ : 2 ≤ nz) (_ : 0 ≤ i) (_ : i ≤ nz - 1) (_ : 2 ≤ nx) (_ : 0 ≤ j) (_ : j ≤ nx - 1) (_ : 1 ≤ count) (_ : 1 ≤ max_step) (_ : ¬ (count ≥ max_step)) :
    (0 ≤ 0 ∧ 0 < 2) := by decide

theorem ray2d_ray2d_status_L80c27_ctx0 (count i j max_step nx nz : Int) (_ : 2 ≤ nz) (_ : 0 ≤ i) (_ : i ≤ nz - 1) (_ : 2 ≤ nx) (_ : 0 ≤ j) (_ : j ≤ nx - 1) (_ : 1 ≤ count) (_ : 1 ≤ max_step) (_ : ¬ (count ≥ max_step)) :
    (0 ≤ (max (i - 1) 0) ∧ (max (i - 1) 0) < nz) := Idx.cell_below

theorem ray2d_ray2d_status_L80c68_ctx0 (count i j max_step nx nz : Int) (_ : 2 ≤ nz) (_ : 0 ≤ i) (_ : i ≤ nz - 1) (_ : 2 ≤ nx) (_ : 0 ≤ j) (_ : j ≤ nx - 1) (_ : 1 ≤ count) (_ : 1 ≤ max_step) (_ : ¬ (count ≥ max_step)) :
    (0 ≤ i ∧ i < nz) := Idx.cell

theorem ray2d_ray2d_status_L80c47_ctx0 (count i j max_step nx nz : Int) (_ : 2 ≤ nz) (_ : 0 ≤ i) (_ : i ≤ nz - 1) (_ : 2 ≤ nx) (_ : 0 ≤ j) (_ : j ≤ nx - 1) (_ : 1 ≤ count) (_ : 1 ≤ max_step) (_ : ¬ (count ≥ max_step)) :
    (0 ≤ 0 ∧ 0 < 2) := by decide

theorem ray2d_ray2d_status_L80c58_ctx0 (count i j max_step nx nz : Int) (_ : 2 ≤ nz) (_ : 0 ≤ i) (_ : i ≤ nz - 1) (_ : 2 ≤ nx) (_ : 0 ≤ j) (_ : j ≤ nx - 1) (_ : 1 ≤ count) (_ : 1 ≤ max_step) (_ : ¬ (count ≥ max_step)) :
    (0 ≤ i ∧ i < nz) := Idx.cell

theorem ray2d_ray2d_status_L81c16_ctx0 (count i j max_step nx nz : Int) (_ : 2 ≤ nz) (_ : 0 ≤ i) (_ : i ≤ nz - 1) (_ : 2 ≤ nx) (_ : 0 ≤ j) (_ : j ≤ nx - 1) (_ : 1 ≤ count) (_ : 1 ≤ max_step) (_ : ¬ (count ≥ max_step)) :
    (0 ≤ 1 ∧ 1 < 2) := by decide

theorem ray2d_ray2d_status_L81c27_ctx0 (count i j max_step nx nz : Int) (_ : 2 ≤ nz) (_ : 0 ≤ i) (_ : i ≤ nz - 1) (_ : 2 ≤ nx) (_ : 0 ≤ j) (_ : j ≤ nx - 1) (_ : 1 ≤ count) (_ : 1 ≤ max_step) (_ : ¬ (count ≥ max_step)) :
    (0 ≤ (max (j - 1) 0) ∧ (max (j - 1) 0) < nx) := Idx.cell_below

theorem ray2d_ray2d_status_L81c68_ctx0 (count i j max_step nx nz : Int) (_ : 2 ≤ nz) (_ : 0 ≤ i) (_ : i ≤ nz - 1) (_ : 2 ≤ nx) (_ : 0 ≤ j) (_ : j ≤ nx - 1) (_ : 1 ≤ count) (_ : 1 ≤ max_step) (_ : ¬ (count ≥ max_step)) :
    (0 ≤ j ∧ j < nx) := Idx.cell

theorem ray2d_ray2d_status_L81c47_ctx0 (count i j max_step nx nz : Int) (_ : 2 ≤ nz) (_ : 0 ≤ i) (_ : i ≤ nz - 1) (_ : 2 ≤ nx) (_ : 0 ≤ j) (_ : j ≤ nx - 1) (_ : 1 ≤ count) (_ : 1 ≤ max_step) (_ : ¬ (count ≥ max_step)) :
    (0 ≤ 1 ∧ 1 < 2) := by decide

theorem ray2d_ray2d_status_L81c58_ctx0 (count i j max_step nx nz : Int) (_ : 2 ≤ nz) (_ : 0 ≤ i) (_ : i ≤ nz - 1) (_ : 2 ≤ nx) (_ : 0 ≤ j) (_ : j ≤ nx - 1) (_ : 1 ≤ count) (_ : 1 ≤ max_step) (_ : ¬ (count ≥ max_step)) :
    (0 ≤ j ∧ j < nx) := Idx.cell

theorem ray2d_ray2d_status_L82c16_ctx0 (count i j max_step nx nz : Int) (_ : 2 ≤ nz) (_ : 0 ≤ i) (_ : i ≤ nz - 1) (_ : 2 ≤ nx) (_ : 0 ≤ j) (_ : j ≤ nx - 1) (_ : 1 ≤ count) (_ : 1 ≤ max_step) (_ : ¬ (count ≥ max_step)) :
    (0 ≤ 0 ∧ 0 < 2) := by decide

theorem ray2d_ray2d_status_L82c27_ctx0 (count i j max_step nx nz : Int) (_ : 2 ≤ nz) (_ : 0 ≤ i) (_ : i ≤ nz - 1) (_ : 2 ≤ nx) (_ : 0 ≤ j) (_ : j ≤ nx - 1) (_ : 1 ≤ count) (_ : 1 ≤ max_step) (_ : ¬ (count ≥ max_step)) :
    (0 ≤ (min (i + 1) (nz - 1)) ∧ (min (i + 1) (nz - 1)) < nz) := Idx.cell_above

theorem ray2d_ray2d_status_L83c16_ctx0 (count i j max_step nx nz : Int) (_ : 2 ≤ nz) (_ : 0 ≤ i) (_ : i ≤ nz - 1) (_ : 2 ≤ nx) (_ : 0 ≤ j) (_ : j ≤ nx - 1) (_ : 1 ≤ count) (_ : 1 ≤ max_step) (_ : ¬ (count ≥ max_step)) :
    (0 ≤ 1 ∧ 1 < 2) := by decide

theorem ray2d_ray2d_status_L83c27_ctx0 (count i j max_step nx nz : Int) (_ : 2 ≤ nz) (_ : 0 ≤ i) (_ : i ≤ nz - 1) (_ : 2 ≤ nx) (_ : 0 ≤ j) (_ : j ≤ nx - 1) (_ : 1 ≤ count) (_ : 1 ≤ max_step) (_ : ¬ (count ≥ max_step)) :
    (0 ≤ (min (j + 1) (nx - 1)) ∧ (min (j + 1) (nx - 1)) < nx) := Idx.cell_above

theorem ray2d_ray2d_status_L85c16_ctx0 (count i j max_step nx nz : Int) (_ : 2 ≤ nz) (_ : 0 ≤ i) (_ : i ≤ nz - 1) (_ : 2 ≤ nx) (_ : 0 ≤ j) (_ : j ≤ nx - 1) (_ : 1 ≤ count) (_ : 1 ≤ max_step) (_ : ¬ (count ≥ max_step)) :
    (0 ≤ count ∧ count < max_step) := by lia

theorem ray2d_ray2d_status_L93c12_ctx0 (count i j max_step nx nz : Int) (_ : 2 ≤ nz) (_ : 0 ≤ i) (_ : i ≤ nz - 1) (_ : 2 ≤ nx) (_ : 0 ≤ j) (_ : j ≤ nx - 1) (_ : 1 ≤ count) (_ : 1 ≤ max_step) (_ : ¬ (count ≥ max_step)) :
    (0 ≤ 0 ∧ 0 < 2) := by decide

theorem ray2d_ray2d_status_L93c46_ctx0 (count i j max_step nx nz : Int) (_ : 2 ≤ nz) (_ : 0 ≤ i) (_ : i ≤ nz - 1) (_ : 2 ≤ nx) (_ : 0 ≤ j) (_ : j ≤ nx - 1) (_ : 1 ≤ count) (_ : 1 ≤ max_step) (_ : ¬ (count ≥ max_step)) :
    (1 ≤ nz) := Idx.axis_last

theorem ray2d_ray2d_status_L93c30_ctx0 (count i j max_step nx nz : Int) (_ : 2 ≤ nz) (_ : 0 ≤ i) (_ : i ≤ nz - 1) (_ : 2 ≤ nx) (_ : 0 ≤ j) (_ : j ≤ nx - 1) (_ : 1 ≤ count) (_ : 1 ≤ max_step) (_ : ¬ (count ≥ max_step)) :
    (0 ≤ 0 ∧ 0 < 2) := by decide

theorem ray2d_ray2d_status_L93c39_ctx0 (count i j max_step nx nz : Int) (_ : 2 ≤ nz) (_ : 0 ≤ i) (_ : i ≤ nz - 1) (_ : 2 ≤ nx) (_ : 0 ≤ j) (_ : j ≤ nx - 1) (_ : 1 ≤ count) (_ : 1 ≤ max_step) (_ : ¬ (count ≥ max_step)) :
    (0 ≤ 0 ∧ 0 < nz) := Idx.axis_first

theorem ray2d_ray2d_status_L94c12_ctx0 (count i j max_step nx nz : Int) (_ : 2 ≤ nz) (_ : 0 ≤ i) (_ : i ≤ nz - 1) (_ : 2 ≤ nx) (_ : 0 ≤ j) (_ : j ≤ nx - 1) (_ : 1 ≤ count) (_ : 1 ≤ max_step) (_ : ¬ (count ≥ max_step)) :
    (0 ≤ 1 ∧ 1 < 2) := by decide

theorem ray2d_ray2d_status_L94c46_ctx0 (count i j max_step nx nz : Int) (_ : 2 ≤ nz) (_ : 0 ≤ i) (_ : i ≤ nz - 1) (_ : 2 ≤ nx) (_ : 0 ≤ j) (_ : j ≤ nx - 1) (_ : 1 ≤ count) (_ : 1 ≤ max_step) (_ : ¬ (count ≥ max_step)) :
    (1 ≤ nx) := Idx.axis_last

theorem ray2d_ray2d_status_L94c30_ctx0 (count i j max_step nx nz : Int) (_ : 2 ≤ nz) (_ : 0 ≤ i) (_ : i ≤ nz - 1) (_ : 2 ≤ nx) (_ : 0 ≤ j) (_ : j ≤ nx - 1) (_ : 1 ≤ count) (_ : 1 ≤ max_step) (_ : ¬ (count ≥ max_step)) :
    (0 ≤ 1 ∧ 1 < 2) := by decide

theorem ray2d_ray2d_status_L94c39_ctx0 (count i j max_step nx nz : Int) (_ : 2 ≤ nz) (_ : 0 ≤ i) (_ : i ≤ nz - 1) (_ : 2 ≤ nx) (_ : 0 ≤ j) (_ : j ≤ nx - 1) (_ : 1 ≤ count) (_ : 1 ≤ max_step) (_ : ¬ (count ≥ max_step)) :
    (0 ≤ 0 ∧ 0 < nx) := Idx.axis_first

theorem ray2d_ray2d_status_L96c12_ctx0 (count i j max_step nx nz : Int) (_ : 2 ≤ nz) (_ : 0 ≤ i) (_ : i ≤ nz - 1) (_ : 2 ≤ nx) (_ : 0 ≤ j) (_ : j ≤ nx - 1) (_ : 1 ≤ count) (_ : 1 ≤ max_step) (_ : ¬ (count ≥ max_step)) :
    (0 ≤ count ∧ count < max_step) := by lia

theorem ray2d_ray2d_status_L102c4_ctx0 (count i j max_step nx nz : Int) (_ : 2 ≤ nz) (_ : 0 ≤ i) (_ : i ≤ nz - 1) (_ : 2 ≤ nx) (_ : 0 ≤ j) (_ : j ≤ nx - 1) (_ : 1 ≤ count) (_ : 1 ≤ max_step) (_ : ¬ (count ≥ max_step)) :
    (0 ≤ count ∧ count < max_step) := by lia

theorem ray3d_ray3d_status_L38c12_ctx0 (count i j k max_step nx ny nz : Int) (_ : 2 ≤ nz) (_ : 0 ≤ i) (_ : i ≤ nz - 1) (_ : 2 ≤ nx) (_ : 0 ≤ j) (_ : j ≤ nx - 1) (_ : 2 ≤ ny) (_ : 0 ≤ k) (_ : k ≤ ny - 1) (_ : 1 ≤ count) (_ : 1 ≤ max_step) :
    (0 ≤ 0 ∧ 0 < nz) := Idx.axis_first

theorem ray3d_ray3d_status_L38c28_ctx0 (count i j k max_step nx ny nz : Int) (_ : 2 ≤ nz) (_ : 0 ≤ i) (_ : i ≤ nz - 1) (_ : 2 ≤ nx) (_ : 0 ≤ j) (_ : j ≤ nx - 1) (_ : 2 ≤ ny) (_ : 0 ≤ k) (_ : k ≤ ny - 1) (_ : 1 ≤ count) (_ : 1 ≤ max_step) :
    (1 ≤ nz) := Idx.axis_last

theorem ray3d_ray3d_status_L39c12_ctx0 (count i j k max_step nx ny nz : Int) (_ : 2 ≤ nz) (_ : 0 ≤ i) (_ : i ≤ nz - 1) (_ : 2 ≤ nx) (_ : 0 ≤ j) (_ : j ≤ nx - 1) (_ : 2 ≤ ny) (_ : 0 ≤ k) (_ : k ≤ ny - 1) (_ : 1 ≤ count) (_ : 1 ≤ max_step) :
    (0 ≤ 0 ∧ 0 < nx) := Idx.axis_first

theorem ray3d_ray3d_status_L39c28_ctx0 (count i j k max_step nx ny nz : Int) (_ : 2 ≤ nz) (_ : 0 ≤ i) (_ : i ≤ nz - 1) (_ : 2 ≤ nx) (_ : 0 ≤ j) (_ : j ≤ nx - 1) (_ : 2 ≤ ny) (_ : 0 ≤ k) (_ : k ≤ ny - 1) (_ : 1 ≤ count) (_ : 1 ≤ max_step) :
    (1 ≤ nx) := Idx.axis_last

theorem ray3d_ray3d_status_L40c12_ctx0 (count i j k max_step nx ny nz : Int) (_ : 2 ≤ nz) (_ : 0 ≤ i) (_ : i ≤ nz - 1) (_ : 2 ≤ nx) (_ : 0 ≤ j) (_ : j ≤ nx - 1) (_ : 2 ≤ ny) (_ : 0 ≤ k) (_ : k ≤ ny - 1) (_ : 1 ≤ count) (_ : 1 ≤ max_step) :
    (0 ≤ 0 ∧ 0 < ny) := Idx.axis_first

theorem ray3d_ray3d_status_L40c28_ctx0 (count i j k max_step nx ny nz : Int) (_ : 2 ≤ nz) (_ : 0 ≤ i) (_ : i ≤ nz - 1) (_ : 2 ≤ nx) (_ : 0 ≤ j) (_ : j ≤ nx - 1) (_ : 2 ≤ ny) (_ : 0 ≤ k) (_ : k ≤ ny - 1) (_ : 1 ≤ count) (_ : 1 ≤ max_step) :
    (1 ≤ ny) := Idx.axis_last

theorem ray3d_ray3d_status_L50c15_ctx0 (count i j k max_step nx ny nz : Int) (_ : 2 ≤ nz) (_ : 0 ≤ i) (_ : i ≤ nz - 1) (_ : 2 ≤ nx) (_ : 0 ≤ j) (_ : j ≤ nx - 1) (_ : 2 ≤ ny) (_ : 0 ≤ k) (_ : k ≤ ny - 1) (_ : 1 ≤ count) (_ : 1 ≤ max_step) :
    (0 ≤ (max (i - 1) 0) ∧ (max (i - 1) 0) < nz) := Idx.cell_below

theorem ray3d_ray3d_status_L50c53_ctx0 (count i j k max_step nx ny nz : Int) (_ : 2 ≤ nz) (_ : 0 ≤ i) (_ : i ≤ nz - 1) (_ : 2 ≤ nx) (_ : 0 ≤ j) (_ : j ≤ nx - 1) (_ : 2 ≤ ny) (_ : 0 ≤ k) (_ : k ≤ ny - 1) (_ : 1 ≤ count) (_ : 1 ≤ max_step) :
    (0 ≤ i ∧ i < nz) := Idx.cell

theorem ray3d_ray3d_status_L50c43_ctx0 (count i j k max_step nx ny nz : Int) (_ : 2 ≤ nz) (_ : 0 ≤ i) (_ : i ≤ nz - 1) (_ : 2 ≤ nx) (_ : 0 ≤ j) (_ : j ≤ nx - 1) (_ : 2 ≤ ny) (_ : 0 ≤ k) (_ : k ≤ ny - 1) (_ : 1 ≤ count) (_ : 1 ≤ max_step) :
    (0 ≤ i ∧ i < nz) := Idx.cell

theorem ray3d_ray3d_status_L51c15_ctx0 (count i j k max_step nx ny nz : Int) (_ : 2 ≤ nz) (_ : 0 ≤ i) (_ : i ≤ nz - 1) (_ : 2 ≤ nx) (_ : 0 ≤ j) (_ : j ≤ nx - 1) (_ : 2 ≤ ny) (_ : 0 ≤ k) (_ : k ≤ ny - 1) (_ : 1 ≤ count) (_ : 1 ≤ max_step) :
    (0 ≤ (max (j - 1) 0) ∧ (max (j - 1) 0) < nx) := Idx.cell_below

theorem ray3d_ray3d_status_L51c53_ctx0 (count i j k max_step nx ny nz : Int) (_ : 2 ≤ nz) (_ : 0 ≤ i) (_ : i ≤ nz - 1) (_ : 2 ≤ nx) (_ : 0 ≤ j) (_ : j ≤ nx - 1) (_ : 2 ≤ ny) (_ : 0 ≤ k) (_ : k ≤ ny - 1) (_ : 1 ≤ count) (_ : 1 ≤ max_step) :
    (0 ≤ j ∧ j < nx) := Idx.cell

theorem ray3d_ray3d_status_L51c43_ctx0 (count i j k max_step nx ny nz : Int) (_ : 2 ≤ nz) (_ : 0 ≤ i) (_ : i ≤ nz - 1) (_ : 2 ≤ nx) (_ : 0 ≤ j) (_ : j ≤ nx - 1) (_ : 2 ≤ ny) (_ : 0 ≤ k) (_ : k ≤ ny - 1) (_ : 1 ≤ count) (_ : 1 ≤ max_step) :
    (0 ≤ j ∧ j < nx) := Idx.cell

theorem ray3d_ray3d_status_L52c15_ctx0 (count i j k max_step nx ny nz : Int) (_ : 2 ≤ nz) (_ : 0 ≤ i) (_ : i ≤ nz - 1) (_ : 2 ≤ nx) (_ : 0 ≤ j) (_ : j ≤ nx - 1) (_ : 2 ≤ ny) (_ : 0 ≤ k) (_ : k ≤ ny - 1) (_ : 1 ≤ count) (_ : 1 ≤ max_step) :
    (0 ≤ (max (k - 1) 0) ∧ (max (k - 1) 0) < ny) := Idx.cell_below

theorem ray3d_ray3d_status_L52c53_ctx0 (count i j k max_step nx ny nz : Int) (_ : 2 ≤ nz) (_ : 0 ≤ i) (_ : i ≤ nz - 1) (_ : 2 ≤ nx) (_ : 0 ≤ j) (_ : j ≤ nx - 1) (_ : 2 ≤ ny) (_ : 0 ≤ k) (_ : k ≤ ny - 1) (_ : 1 ≤ count) (_ : 1 ≤ max_step) :
    (0 ≤ k ∧ k < ny) := Idx.cell

theorem ray3d_ray3d_status_L52c43_ctx0 (count i j k max_step nx ny nz : Int) (_ : 2 ≤ nz) (_ : 0 ≤ i) (_ : i ≤ nz - 1) (_ : 2 ≤ nx) (_ : 0 ≤ j) (_ : j ≤ nx - 1) (_ : 2 ≤ ny) (_ : 0 ≤ k) (_ : k ≤ ny - 1) (_ : 1 ≤ count) (_ : 1 ≤ max_step) :
    (0 ≤ k ∧ k < ny) := Idx.cell

theorem ray3d_ray3d_status_L55c13_ctx0 (count i j k max_step nx ny nz : Int) (_ : 2 ≤ nz) (_ : 0 ≤ i) (_ : i ≤ nz - 1) (_ : 2 ≤ nx) (_ : 0 ≤ j) (_ : j ≤ nx - 1) (_ : 2 ≤ ny) (_ : 0 ≤ k) (_ : k ≤ ny - 1) (_ : 1 ≤ count) (_ : 1 ≤ max_step) :
    (0 ≤ (min (i + 1) (nz - 1)) ∧ (min (i + 1) (nz - 1)) < nz) := Idx.cell_above

theorem ray3d_ray3d_status_L55c36_ctx0 (count i j k max_step nx ny nz : Int) (_ : 2 ≤ nz) (_ : 0 ≤ i) (_ : i ≤ nz - 1) (_ : 2 ≤ nx) (_ : 0 ≤ j) (_ : j ≤ nx - 1) (_ : 2 ≤ ny) (_ : 0 ≤ k) (_ : k ≤ ny - 1) (_ : 1 ≤ count) (_ : 1 ≤ max_step) :
    (0 ≤ (min (j + 1) (nx - 1)) ∧ (min (j + 1) (nx - 1)) < nx) := Idx.cell_above

theorem ray3d_ray3d_status_L55c59_ctx0 (count i j k max_step nx ny nz : Int) (_ : 2 ≤ nz) (_ : 0 ≤ i) (_ : i ≤ nz - 1) (_ : 2 ≤ nx) (_ : 0 ≤ j) (_ : j ≤ nx - 1) (_ : 2 ≤ ny) (_ : 0 ≤ k) (_ : k ≤ ny - 1) (_ : 1 ≤ count) (_ : 1 ≤ max_step) :
    (0 ≤ (min (k + 1) (ny - 1)) ∧ (min (k + 1) (ny - 1)) < ny) := Idx.cell_above

theorem ray3d_ray3d_status_L66c4_ctx0 (count i j k max_step nx ny nz : Int) (_ : 2 ≤ nz) (_ : 0 ≤ i) (_ : i ≤ nz - 1) (_ : 2 ≤ nx) (_ : 0 ≤ j) (_ : j ≤ nx - 1) (_ : 2 ≤ ny) (_ : 0 ≤ k) (_ : k ≤ ny - 1) (_ : 1 ≤ count) (_ : 1 ≤ max_step) (_ : count = 1) :
    (0 ≤ 0 ∧ 0 < max_step) := by lia

theorem ray3d_ray3d_status_L67c35_ctx0 (count i j k max_step nx ny nz : Int) (_ : 2 ≤ nz) (_ : 0 ≤ i) (_ : i ≤ nz - 1) (_ : 2 ≤ nx) (_ : 0 ≤ j) (_ : j ≤ nx - 1) (_ : 2 ≤ ny) (_ : 0 ≤ k) (_ : k ≤ ny - 1) (_ : 1 ≤ count) (_ : 1 ≤ max_step) :
    (0 ≤ 0 ∧ 0 < 3) := by decide

theorem ray3d_ray3d_status_L67c44_ctx0 (count i j k max_step nx ny nz : Int) (_ : 2 ≤ nz) (_ : 0 ≤ i) (_ : i ≤ nz - 1) (_ : 2 ≤ nx) (_ : 0 ≤ j) (_ : j ≤ nx - 1) (_ : 2 ≤ ny) (_ : 0 ≤ k) (_ : k ≤ ny - 1) (_ : 1 ≤ count) (_ : 1 ≤ max_step) :
    (0 ≤ 1 ∧ 1 < 3) := by decide

theorem ray3d_ray3d_status_L67c53_ctx0 (count i j k max_step nx ny nz : Int) (_ : 2 ≤ nz) (_ : 0 ≤ i) (_ : i ≤ nz - 1) (_ : 2 ≤ nx) (_ : 0 ≤ j) (_ : j ≤ nx - 1) (_ : 2 ≤ ny) (_ : 0 ≤ k) (_ : k ≤ ny - 1) (_ : 1 ≤ count) (_ : 1 ≤ max_step) :
    (0 ≤ 2 ∧ 2 < 3) := by decide

theorem ray3d_ray3d_status_L81c8_ctx0 (count i j k max_step nx ny nz : Int) (_ : 2 ≤ nz) (_ : 0 ≤ i) (_ : i ≤ nz - 1) (_ : 2 ≤ nx) (_ : 0 ≤ j) (_ : j ≤ nx - 1) (_ : 2 ≤ ny) (_ : 0 ≤ k) (_ : k ≤ ny - 1) (_ : 1 ≤ count) (_ : 1 ≤ max_step) (_ : ¬ (count ≥ max_step)) :
    (0 ≤ 0 ∧ 0 < 3) := by decide

theorem ray3d_ray3d_status_L82c8_ctx0 (count i j k max_step nx ny nz : Int) (_ : 2 ≤ nz) (_ : 0 ≤ i) (_ : i ≤ nz - 1) (_ : 2 ≤ nx) (_ : 0 ≤ j) (_ : j ≤ nx - 1) (_ : 2 ≤ ny) (_ : 0 ≤ k) (_ : k ≤ ny - 1) (_ : 1 ≤ count) (_ : 1 ≤ max_step) (_ : ¬ (count ≥ max_step)) :
    (0 ≤ 1 ∧ 1 < 3) := by decide

theorem ray3d_ray3d_status_L83c8_ctx0 (count i j k max_step nx ny nz : Int) (_ : 2 ≤ nz) (_ : 0 ≤ i) (_ : i ≤ nz - 1) (_ : 2 ≤ nx) (_ : 0 ≤ j) (_ : j ≤ nx - 1) (_ : 2 ≤ ny) (_ : 0 ≤ k) (_ : k ≤ ny - 1) (_ : 1 ≤ count) (_ : 1 ≤ max_step) (_ : ¬ (count ≥ max_step)) :
    (0 ≤ 2 ∧ 2 < 3) := by decide

theorem ray3d_ray3d_status_L88c12_ctx0 (count i j k max_step nx ny nz : Int) (_ : 2 ≤ nz) (_ : 0 ≤ i) (_ : i ≤ nz - 1) (_ : 2 ≤ nx) (_ : 0 ≤ j) (_ : j ≤ nx - 1) (_ : 2 ≤ ny) (_ : 0 ≤ k) (_ : k ≤ ny - 1) (_ : 1 ≤ count) (_ : 1 ≤ max_step) (_ : ¬ (count ≥ max_step)) :
    (0 ≤ 0 ∧ 0 < 3) := by decide

theorem ray3d_ray3d_status_L88c46_ctx0 (count i j k max_step nx ny nz : Int) (_ : 2 ≤ nz) (_ : 0 ≤ i) (_ : i ≤ nz - 1) (_ : 2 ≤ nx) (_ : 0 ≤ j) (_ : j ≤ nx - 1) (_ : 2 ≤ ny) (_ : 0 ≤ k) (_ : k ≤ ny - 1) (_ : 1 ≤ count) (_ : 1 ≤ max_step) (_ : ¬ (count ≥ max_step)) :
    (1 ≤ nz) := Idx.axis_last

theorem ray3d_ray3d_status_L88c30_ctx0 (count i j k max_step nx ny nz : Int) (_ : 2 ≤ nz) (_ : 0 ≤ i) (_ : i ≤ nz - 1) (_ : 2 ≤ nx) (_ : 0 ≤ j) (_ : j ≤ nx - 1) (_ : 2 ≤ ny) (_ : 0 ≤ k) (_ : k ≤ ny - 1) (_ : 1 ≤ count) (_ : 1 ≤ max_step) (_ : ¬ (count ≥ max_step)) :
    (0 ≤ 0 ∧ 0 < 3) := by decide

theorem ray3d_ray3d_status_L88c39_ctx0 (count i j k max_step nx ny nz : Int) (_ : 2 ≤ nz) (_ : 0 ≤ i) (_ : i ≤ nz - 1) (_ : 2 ≤ nx) (_ : 0 ≤ j) (_ : j ≤ nx - 1) (_ : 2 ≤ ny) (_ : 0 ≤ k) (_ : k ≤ ny - 1) (_ : 1 ≤ count) (_ : 1 ≤ max_step) (_ : ¬ (count ≥ max_step)) :
    (0 ≤ 0 ∧ 0 < nz) := Idx.axis_first

theorem ray3d_ray3d_status_L89c12_ctx0 (count i j k max_step nx ny nz : Int) (_ : 2 ≤ nz) (_ : 0 ≤ i) (_ : i ≤ nz - 1) (_ : 2 ≤ nx) (_ : 0 ≤ j) (_ : j ≤ nx - 1) (_ : 2 ≤ ny) (_ : 0 ≤ k) (_ : k ≤ ny - 1) (_ : 1 ≤ count) (_ : 1 ≤ max_step) (_ : ¬ (count ≥ max_step)) :
    (0 ≤ 1 ∧ 1 < 3) := by decide

theorem ray3d_ray3d_status_L89c46_ctx0 (count i j k max_step nx ny nz : Int) (_ : 2 ≤ nz) (_ : 0 ≤ i) (_ : i ≤ nz - 1) (_ : 2 ≤ nx) (_ : 0 ≤ j) (_ : j ≤ nx - 1) (_ : 2 ≤ ny) (_ : 0 ≤ k) (_ : k ≤ ny - 1) (_ : 1 ≤ count) (_ : 1 ≤ max_step) (_ : ¬ (count ≥ max_step)) :
    (1 ≤ nx) := Idx.axis_last

theorem ray3d_ray3d_status_L89c30_ctx0 (count i j k max_step nx ny nz : Int) (_ : 2 ≤ nz) (_ : 0 ≤ i) (_ : i ≤ nz - 1) (_ : 2 ≤ nx) (_ : 0 ≤ j) (_ : j ≤ nx - 1) (_ : 2 ≤ ny) (_ : 0 ≤ k) (_ : k ≤ ny - 1) (_ : 1 ≤ count) (_ : 1 ≤ max_step) (_ : ¬ (count ≥ max_step)) :
    (0 ≤ 1 ∧ 1 < 3) := by decide

theorem ray3d_ray3d_status_L89c39_ctx0 (count i j k max_step nx ny nz : Int) (_ : 2 ≤ nz) (_ : 0 ≤ i) (_ : i ≤ nz - 1) (_ : 2 ≤ nx) (_ : 0 ≤ j) (_ : j ≤ nx - 1) (_ : 2 ≤ ny) (_ : 0 ≤ k) (_ : k ≤ ny - 1) (_ : 1 ≤ count) (_ : 1 ≤ max_step) (_ : ¬ (count ≥ max_step)) :
    (0 ≤ 0 ∧ 0 < nx) := Idx.axis_first

theorem ray3d_ray3d_status_L90c12_ctx0 (count i j k max_step nx ny nz : Int) (_ : 2 ≤ nz) (_ : 0 ≤ i) (_ : i ≤ nz - 1) (_ : 2 ≤ nx) (_ : 0 ≤ j) (_ : j ≤ nx - 1) (_ : 2 ≤ ny) (_ : 0 ≤ k) (_ : k ≤ ny - 1) (_ : 1 ≤ count) (_ : 1 ≤ max_step) (_ : ¬ (count ≥ max_step)) :
    (0 ≤ 2 ∧ 2 < 3) := by decide

theorem ray3d_ray3d_status_L90c46_ctx0 (count i j k max_step nx ny nz : Int) (_ : 2 ≤ nz) (_ : 0 ≤ i) (_ : i ≤ nz - 1) (_ : 2 ≤ nx) (_ : 0 ≤ j) (_ : j ≤ nx - 1) (_ : 2 ≤ ny) (_ : 0 ≤ k) (_ : k ≤ ny - 1) (_ : 1 ≤ count) (_ : 1 ≤ max_step) (_ : ¬ (count ≥ max_step)) :
    (1 ≤ ny) := Idx.axis_last

theorem ray3d_ray3d_status_L90c30_ctx0 (count i j k max_step nx ny nz : Int) (_ : 2 ≤ nz) (_ : 0 ≤ i) (_ : i ≤ nz - 1) (_ : 2 ≤ nx) (_ : 0 ≤ j) (_ : j ≤ nx - 1) (_ : 2 ≤ ny) (_ : 0 ≤ k) (_ : k ≤ ny - 1) (_ : 1 ≤ count) (_ : 1 ≤ max_step) (_ : ¬ (count ≥ max_step)) :
    (0 ≤ 2 ∧ 2 < 3) := by decide

theorem ray3d_ray3d_status_L90c39_ctx0 (count i j k max_step nx ny nz : Int) (_ : 2 ≤ nz) (_ : 0 ≤ i) (_ : i ≤ nz - 1) (_ : 2 ≤ nx) (_ : 0 ≤ j) (_ : j ≤ nx - 1) (_ : 2 ≤ ny) (_ : 0 ≤ k) (_ : k ≤ ny - 1) (_ : 1 ≤ count) (_ : 1 ≤ max_step) (_ : ¬ (count ≥ max_step)) :
    (0 ≤ 0 ∧ 0 < ny) := Idx.axis_first

theorem ray3d_ray3d_status_L95c30_ctx0 (count i ix j k max_step nx ny nz : Int) (_ : 2 ≤ nz) (_ : 0 ≤ i) (_ : i ≤ nz - 1) (_ : 2 ≤ nx) (_ : 0 ≤ j) (_ : j ≤ nx - 1) (_ : 2 ≤ ny) (_ : 0 ≤ k) (_ : k ≤ ny - 1) (_ : 1 ≤ count) (_ : 1 ≤ max_step) (_ : ¬ (count ≥ max_step)) (_ : 0 ≤ ix) (_ : ix < 3) :
    (0 ≤ ix ∧ ix < 3) := Idx.range

theorem ray3d_ray3d_status_L95c41_ctx0 (count i ix j k max_step nx ny nz : Int) (_ : 2 ≤ nz) (_ : 0 ≤ i) (_ : i ≤ nz - 1) (_ : 2 ≤ nx) (_ : 0 ≤ j) (_ : j ≤ nx - 1) (_ : 2 ≤ ny) (_ : 0 ≤ k) (_ : k ≤ ny - 1) (_ : 1 ≤ count) (_ : 1 ≤ max_step) (_ : ¬ (count ≥ max_step)) (_ : 0 ≤ ix) (_ : ix < 3) :
    (0 ≤ ix ∧ ix < 3) := Idx.range

theorem ray3d_ray3d_status_L96c24_ctx0 (count i ix j k max_step nx ny nz : Int) (_ : 2 ≤ nz) (_ : 0 ≤ i) (_ : i ≤ nz - 1) (_ : 2 ≤ nx) (_ : 0 ≤ j) (_ : j ≤ nx - 1) (_ : 2 ≤ ny) (_ : 0 ≤ k) (_ : k ≤ ny - 1) (_ : 1 ≤ count) (_ : 1 ≤ max_step) (_ : ¬ (count ≥ max_step)) (_ : 0 ≤ ix) (_ : ix < 3) :
    (0 ≤ ix ∧ ix < 3) := Idx.range

theorem ray3d_ray3d_status_L96c35_ctx0 (count i ix j k max_step nx ny nz : Int) (_ : 2 ≤ nz) (_ : 0 ≤ i) (_ : i ≤ nz - 1) (_ : 2 ≤ nx) (_ : 0 ≤ j) (_ : j ≤ nx - 1) (_ : 2 ≤ ny) (_ : 0 ≤ k) (_ : k ≤ ny - 1) (_ : 1 ≤ count) (_ : 1 ≤ max_step) (_ : ¬ (count ≥ max_step)) (_ : 0 ≤ ix) (_ : ix < 3) :
    (0 ≤ ix ∧ ix < 3) := Idx.range

theorem ray3d_ray3d_status_L98c32_ctx0 (count i ix j k max_step nx ny nz : Int) (_ : 2 ≤ nz) (_ : 0 ≤ i) (_ : i ≤ nz - 1) (_ : 2 ≤ nx) (_ : 0 ≤ j) (_ : j ≤ nx - 1) (_ : 2 ≤ ny) (_ : 0 ≤ k) (_ : k ≤ ny - 1) (_ : 1 ≤ count) (_ : 1 ≤ max_step) (_ : ¬ (count ≥ max_step)) (_ : 0 ≤ ix) (_ : ix < 3) :
    (0 ≤ ix ∧ ix < 3) := Idx.range

theorem ray3d_ray3d_status_L98c43_ctx0 (count i ix j k max_step nx ny nz : Int) (_ : 2 ≤ nz) (_ : 0 ≤ i) (_ : i ≤ nz - 1) (_ : 2 ≤ nx) (_ : 0 ≤ j) (_ : j ≤ nx - 1) (_ : 2 ≤ ny) (_ : 0 ≤ k) (_ : k ≤ ny - 1) (_ : 1 ≤ count) (_ : 1 ≤ max_step) (_ : ¬ (count ≥ max_step)) (_ : 0 ≤ ix) (_ : ix < 3) :
    (0 ≤ ix ∧ ix < 3) := Idx.range

theorem ray3d_ray3d_status_L99c24_ctx0 (count i ix j k max_step nx ny nz : Int) (_ : 2 ≤ nz) (_ : 0 ≤ i) (_ : i ≤ nz - 1) (_ : 2 ≤ nx) (_ : 0 ≤ j) (_ : j ≤ nx - 1) (_ : 2 ≤ ny) (_ : 0 ≤ k) (_ : k ≤ ny - 1) (_ : 1 ≤ count) (_ : 1 ≤ max_step) (_ : ¬ (count ≥ max_step)) (_ : 0 ≤ ix) (_ : ix < 3) :
    (0 ≤ ix ∧ ix < 3) := Idx.range

theorem ray3d_ray3d_status_L99c35_ctx0 (count i ix j k max_step nx ny nz : Int) (_ : 2 ≤ nz) (_ : 0 ≤ i) (_ : i ≤ nz - 1) (_ : 2 ≤ nx) (_ : 0 ≤ j) (_ : j ≤ nx - 1) (_ : 2 ≤ ny) (_ : 0 ≤ k) (_ : k ≤ ny - 1) (_ : 1 ≤ count) (_ : 1 ≤ max_step) (_ : ¬ (count ≥ max_step)) (_ : 0 ≤ ix) (_ : ix < 3) :
    (0 ≤ ix ∧ ix < 3) := Idx.range

theorem ray3d_ray3d_status_L101c39_ctx0 (count i j k max_step nx ny nz : Int) (_ : 2 ≤ nz) (_ : 0 ≤ i) (_ : i ≤ nz - 1) (_ : 2 ≤ nx) (_ : 0 ≤ j) (_ : j ≤ nx - 1) (_ : 2 ≤ ny) (_ : 0 ≤ k) (_ : k ≤ ny - 1) (_ : 1 ≤ count) (_ : 1 ≤ max_step) (_ : ¬ (count ≥ max_step)) :
    (0 ≤ 0 ∧ 0 < 3) := by decide

theorem ray3d_ray3d_status_L102c39_ctx0 (count i j k max_step nx ny nz : Int) (_ : 2 ≤ nz) (_ : 0 ≤ i) (_ : i ≤ nz - 1) (_ : 2 ≤ nx) (_ : 0 ≤ j) (_ : j ≤ nx - 1) (_ : 2 ≤ ny) (_ : 0 ≤ k) (_ : k ≤ ny - 1) (_ : 1 ≤ count) (_ : 1 ≤ max_step) (_ : ¬ (count ≥ max_step)) :
    (0 ≤ 1 ∧ 1 < 3) := by decide

theorem ray3d_ray3d_status_L103c39_ctx0 (count i j k max_step nx ny nz : Int) (_ : 2 ≤ nz) (_ : 0 ≤ i) (_ : i ≤ nz - 1) (_ : 2 ≤ nx) (_ : 0 ≤ j) (_ : j ≤ nx - 1) (_ : 2 ≤ ny) (_ : 0 ≤ k) (_ : k ≤ ny - 1) (_ : 1 ≤ count) (_ : 1 ≤ max_step) (_ : ¬ (count ≥ max_step)) :
    (0 ≤ 2 ∧ 2 < 3) := by decide

theorem ray3d_ray3d_status_L104c16_ctx0 (count i j k max_step nx ny nz : Int) (_ : 2 ≤ nz) (_ : 0 ≤ i) (_ : i ≤ nz - 1) (_ : 2 ≤ nx) (_ : 0 ≤ j) (_ : j ≤ nx - 1) (_ : 2 ≤ ny) (_ : 0 ≤ k) (_ : k ≤ ny - 1) (_ : 1 ≤ count) (_ : 1 ≤ max_step) (_ : ¬ (count ≥ max_step)) :
    (0 ≤ 0 ∧ 0 < 3) := by decide

theorem ray3d_ray3d_status_L104c27_ctx0 (count i j k max_step nx ny nz : Int) (_ : 2 ≤ nz) (_ : 0 ≤ i) (_ : i ≤ nz - 1) (_ : 2 ≤ nx) (_ : 0 ≤ j) (_ : j ≤ nx - 1) (_ : 2 ≤ ny) (_ : 0 ≤ k) (_ : k ≤ ny - 1) (_ : 1 ≤ count) (_ : 1 ≤ max_step) (_ : ¬ (count ≥ max_step)) :
    (0 ≤ (max (i - 1) 0) ∧ (max (i - 1) 0) < nz) := Idx.cell_below

theorem ray3d_ray3d_status_L104c68_ctx0 (count i j k max_step nx ny nz : Int) (_ : 2 ≤ nz) (_ : 0 ≤ i) (_ : i ≤ nz - 1) (_ : 2 ≤ nx) (_ : 0 ≤ j) (_ : j ≤ nx - 1) (_ : 2 ≤ ny) (_ : 0 ≤ k) (_ : k ≤ ny - 1) (_ : 1 ≤ count) (_ : 1 ≤ max_step) (_ : ¬ (count ≥ max_step)) :
    (0 ≤ i ∧ i < nz) := Idx.cell

theorem ray3d_ray3d_status_L104c47_ctx0 (count i j k max_step nx ny nz : Int) (_ : 2 ≤ nz) (_ : 0 ≤ i) (_ : i ≤ nz - 1) (_ : 2 ≤ nx) (_ : 0 ≤ j) (_ : j ≤ nx - 1) (_ : 2 ≤ ny) (_ : 0 ≤ k) (_ : k ≤ ny - 1) (_ : 1 ≤ count) (_ : 1 ≤ max_step) (_ : ¬ (count ≥ max_step)) :
    (0 ≤ 0 ∧ 0 < 3) := by decide

theorem ray3d_ray3d_status_L104c58_ctx0 (count i j k max_step nx ny nz : Int) (_ : 2 ≤ nz) (_ : 0 ≤ i) (_ : i ≤ nz - 1) (_ : 2 ≤ nx) (_ : 0 ≤ j) (_ : j ≤ nx - 1) (_ : 2 ≤ ny) (_ : 0 ≤ k) (_ : k ≤ ny - 1) (_ : 1 ≤ count) (_ : 1 ≤ max_step) (_ : ¬ (count ≥ max_step)) :
    (0 ≤ i ∧ i < nz) := Idx.cell

theorem ray3d_ray3d_status_L105c16_ctx0 (count i j k max_step nx ny nz : Int) (_ : 2 ≤ nz) (_ : 0 ≤ i) (_ : i ≤ nz - 1) (_ : 2 ≤ nx) (_ : 0 ≤ j) (_ : j ≤ nx - 1) (_ : 2 ≤ ny) (_ : 0 ≤ k) (_ : k ≤ ny - 1) (_ : 1 ≤ count) (_ : 1 ≤ max_step) (_ : ¬ (count ≥ max_step)) :
    (0 ≤ 1 ∧ 1 < 3) := by decide

theorem ray3d_ray3d_status_L105c27_ctx0 (count i j k max_step nx ny nz : Int) (_ : 2 ≤ nz) (_ : 0 ≤ i) (_ : i ≤ nz - 1) (_ : 2 ≤ nx) (_ : 0 ≤ j) (_ : j ≤ nx - 1) (_ : 2 ≤ ny) (_ : 0 ≤ k) (_ : k ≤ ny - 1) (_ : 1 ≤ count) (_ : 1 ≤ max_step) (_ : ¬ (count ≥ max_step)) :
    (0 ≤ (max (j - 1) 0) ∧ (max (j - 1) 0) < nx) := Idx.cell_below

theorem ray3d_ray3d_status_L105c68_ctx0 (count i j k max_step nx ny nz : Int) (_ : 2 ≤ nz) (_ : 0 ≤ i) (_ : i ≤ nz - 1) (_ : 2 ≤ nx) (_ : 0 ≤ j) (_ : j ≤ nx - 1) (_ : 2 ≤ ny) (_ : 0 ≤ k) (_ : k ≤ ny - 1) (_ : 1 ≤ count) (_ : 1 ≤ max_step) (_ : ¬ (count ≥ max_step)) :
    (0 ≤ j ∧ j < nx) := Idx.cell

theorem ray3d_ray3d_status_L105c47_ctx0 (count i j k max_step nx ny nz : Int) (_ : 2 ≤ nz) (_ : 0 ≤ i) (_ : i ≤ nz - 1) (_ : 2 ≤ nx) (_ : 0 ≤ j) (_ : j ≤ nx - 1) (_ : 2 ≤ ny) (_ : 0 ≤ k) (_ : k ≤ ny - 1) (_ : 1 ≤ count) (_ : 1 ≤ max_step) (_ : ¬ (count ≥ max_step)) :
    (0 ≤ 1 ∧ 1 < 3) := by decide

theorem ray3d_ray3d_status_L105c58_ctx0 (count i j k max_step nx ny nz : Int) (_ : 2 ≤ nz) (_ : 0 ≤ i) (_ : i ≤ nz - 1) (_ : 2 ≤ nx) (_ : 0 ≤ j) (_ : j ≤ nx - 1) (_ : 2 ≤ ny) (_ : 0 ≤ k) (_ : k ≤ ny - 1) (_ : 1 ≤ count) (_ : 1 ≤ max_step) (_ : ¬ (count ≥ max_step)) :
    (0 ≤ j ∧ j < nx) := Idx.cell

theorem ray3d_ray3d_status_L106c16_ctx0 (count i j k max_step nx ny nz : Int) (_ : 2 ≤ nz) (_ : 0 ≤ i) (_ : i ≤ nz - 1) (_ : 2 ≤ nx) (_ : 0 ≤ j) (_ : j ≤ nx - 1) (_ : 2 ≤ ny) (_ : 0 ≤ k) (_ : k ≤ ny - 1) (_ : 1 ≤ count) (_ : 1 ≤ max_step) (_ : ¬ (count ≥ max_step)) :
    (0 ≤ 2 ∧ 2 < 3) := by decide

theorem ray3d_ray3d_status_L106c27_ctx0 (count i j k max_step nx ny nz : Int) (_ : 2 ≤ nz) (_ : 0 ≤ i) (_ : i ≤ nz - 1) (_ : 2 ≤ nx) (_ : 0 ≤ j) (_ : j ≤ nx - 1) (_ : 2 ≤ ny) (_ : 0 ≤ k) (_ : k ≤ ny - 1) (_ : 1 ≤ count) (_ : 1 ≤ max_step) (_ : ¬ (count ≥ max_step)) :
    (0 ≤ (max (k - 1) 0) ∧ (max (k - 1) 0) < ny) := Idx.cell_below

theorem ray3d_ray3d_status_L106c68_ctx0 (count i j k max_step nx ny nz : Int) (_ : 2 ≤ nz) (_ : 0 ≤ i) (_ : i ≤ nz - 1) (_ : 2 ≤ nx) (_ : 0 ≤ j) (_ : j ≤ nx - 1) (_ : 2 ≤ ny) (_ : 0 ≤ k) (_ : k ≤ ny - 1) (_ : 1 ≤ count) (_ : 1 ≤ max_step) (_ : ¬ (count ≥ max_step)) :
    (0 ≤ k ∧ k < ny) := Idx.cell

theorem ray3d_ray3d_status_L106c47_ctx0 (count i j k max_step nx ny nz : Int) (_ : 2 ≤ nz) (_ : 0 ≤ i) (_ : i ≤ nz - 1) (_ : 2 ≤ nx) (_ : 0 ≤ j) (_ : j ≤ nx - 1) (_ : 2 ≤ ny) (_ : 0 ≤ k) (_ : k ≤ ny - 1) (_ : 1 ≤ count) (_ : 1 ≤ max_step) (_ : ¬ (count ≥ max_step)) :
    (0 ≤ 2 ∧ 2 < 3) := by decide

theorem ray3d_ray3d_status_L106c58_ctx0 (count i j k max_step nx ny nz : Int) (_ : 2 ≤ nz) (_ : 0 ≤ i) (_ : i ≤ nz - 1) (_ : 2 ≤ nx) (_ : 0 ≤ j) (_ : j ≤ nx - 1) (_ : 2 ≤ ny) (_ : 0 ≤ k) (_ : k ≤ ny - 1) (_ : 1 ≤ count) (_ : 1 ≤ max_step) (_ : ¬ (count ≥ max_step)) :
    (0 ≤ k ∧ k < ny) := Idx.cell

theorem ray3d_ray3d_status_L107c16_ctx0 (count i j k max_step nx ny nz : Int) (_ : 2 ≤ nz) (_ : 0 ≤ i) (_ : i ≤ nz - 1) (_ : 2 ≤ nx) (_ : 0 ≤ j) (_ : j ≤ nx - 1) (_ : 2 ≤ ny) (_ : 0 ≤ k) (_ : k ≤ ny - 1) (_ : 1 ≤ count) (_ : 1 ≤ max_step) (_ : ¬ (count ≥ max_step)) :
    (0 ≤ 0 ∧ 0 < 3) := by decide

theorem ray3d_ray3d_status_L107c27_ctx0 (count i j k max_step nx ny nz : Int) (_ : 2 ≤ nz) (_ : 0 ≤ i) (_ : i ≤ nz - 1) (_ : 2 ≤ nx) (_ : 0 ≤ j) (_ : j ≤ nx - 1) (_ : 2 ≤ ny) (_ : 0 ≤ k) (_ : k ≤ ny - 1) (_ : 1 ≤ count) (_ : 1 ≤ max_step) (_ : ¬ (count ≥ max_step)) :
    (0 ≤ (min (i + 1) (nz - 1)) ∧ (min (i + 1) (nz - 1)) < nz) := Idx.cell_above

theorem ray3d_ray3d_status_L108c16_ctx0 (count i j k max_step nx ny nz : Int) (_ : 2 ≤ nz) (_ : 0 ≤ i) (_ : i ≤ nz - 1) (_ : 2 ≤ nx) (_ : 0 ≤ j) (_ : j ≤ nx - 1) (_ : 2 ≤ ny) (_ : 0 ≤ k) (_ : k ≤ ny - 1) (_ : 1 ≤ count) (_ : 1 ≤ max_step) (_ : ¬ (count ≥ max_step)) :
    (0 ≤ 1 ∧ 1 < 3) := by decide

theorem ray3d_ray3d_status_L108c27_ctx0 (count i j k max_step nx ny nz : Int) (_ : 2 ≤ nz) (_ : 0 ≤ i) (_ : i ≤ nz - 1) (_ : 2 ≤ nx) (_ : 0 ≤ j) (_ : j ≤ nx - 1) (_ : 2 ≤ ny) (_ : 0 ≤ k) (_ : k ≤ ny - 1) (_ : 1 ≤ count) (_ : 1 ≤ max_step) (_ : ¬ (count ≥ max_step)) :
    (0 ≤ (min (j + 1) (nx - 1)) ∧ (min (j + 1) (nx - 1)) < nx) := Idx.cell_above

theorem ray3d_ray3d_status_L109c16_ctx0 (count i j k max_step nx ny nz : Int) (_ : 2 ≤ nz) (_ : 0 ≤ i) (_ : i ≤ nz - 1) (_ : 2 ≤ nx) (_ : 0 ≤ j) (_ : j ≤ nx - 1) (_ : 2 ≤ ny) (_ : 0 ≤ k) (_ : k ≤ ny - 1) (_ : 1 ≤ count) (_ : 1 ≤ max_step) (_ : ¬ (count ≥ max_step)) :
    (0 ≤ 2 ∧ 2 < 3) := by decide

theorem ray3d_ray3d_status_L109c27_ctx0 (count i j k max_step nx ny nz : Int) (_ : 2 ≤ nz) (_ : 0 ≤ i) (_ : i ≤ nz - 1) (_ : 2 ≤ nx) (_ : 0 ≤ j) (_ : j ≤ nx - 1) (_ : 2 ≤ ny) (_ : 0 ≤ k) (_ : k ≤ ny - 1) (_ : 1 ≤ count) (_ : 1 ≤ max_step) (_ : ¬ (count ≥ max_step)) :
    (0 ≤ (min (k + 1) (ny - 1)) ∧ (min (k + 1) (ny - 1)) < ny) := Idx.cell_above

theorem ray3d_ray3d_status_L111c16_ctx0 (count i j k max_step nx ny nz : Int) (_ : 2 ≤ nz) (_ : 0 ≤ i) (_ : i ≤ nz - 1) (_ : 2 ≤ nx) (_ : 0 ≤ j) (_ : j ≤ nx - 1) (_ : 2 ≤ ny) (_ : 0 ≤ k) (_ : k ≤ ny - 1) (_ : 1 ≤ count) (_ : 1 ≤ max_step) (_ : ¬ (count ≥ max_step)) :
    (0 ≤ count ∧ count < max_step) := by lia

theorem ray3d_ray3d_status_L119c12_ctx0 (count i j k max_step nx ny nz : Int) (_ : 2 ≤ nz) (_ : 0 ≤ i) (_ : i ≤ nz - 1) (_ : 2 ≤ nx) (_ : 0 ≤ j) (_ : j ≤ nx - 1) (_ : 2 ≤ ny) (_ : 0 ≤ k) (_ : k ≤ ny - 1) (_ : 1 ≤ count) (_ : 1 ≤ max_step) (_ : ¬ (count ≥ max_step)) :
    (0 ≤ 0 ∧ 0 < 3) := by decide

theorem ray3d_ray3d_status_L119c46_ctx0 (count i j k max_step nx ny nz : Int) (_ : 2 ≤ nz) (_ : 0 ≤ i) (_ : i ≤ nz - 1) (_ : 2 ≤ nx) (_ : 0 ≤ j) (_ : j ≤ nx - 1) (_ : 2 ≤ ny) (_ : 0 ≤ k) (_ : k ≤ ny - 1) (_ : 1 ≤ count) (_ : 1 ≤ max_step) (_ : ¬ (count ≥ max_step)) :
    (1 ≤ nz) := Idx.axis_last

theorem ray3d_ray3d_status_L119c30_ctx0 (count i j k max_step nx ny nz : Int) (_ : 2 ≤ nz) (_ : 0 ≤ i) (_ : i ≤ nz - 1) (_ : 2 ≤ nx) (_ : 0 ≤ j) (_ : j ≤ nx - 1) (_ : 2 ≤ ny) (_ : 0 ≤ k) (_ : k ≤ ny - 1) (_ : 1 ≤ count) (_ : 1 ≤ max_step) (_ : ¬ (count ≥ max_step)) :
    (0 ≤ 0 ∧ 0 < 3) := by decide

theorem ray3d_ray3d_status_L119c39_ctx0 (count i j k max_step nx ny nz : Int) (_ : 2 ≤ nz) (_ : 0 ≤ i) (_ : i ≤ nz - 1) (_ : 2 ≤ nx) (_ : 0 ≤ j) (_ : j ≤ nx - 1) (_ : 2 ≤ ny) (_ : 0 ≤ k) (_ : k ≤ ny - 1) (_ : 1 ≤ count) (_ : 1 ≤ max_step) (_ : ¬ (count ≥ max_step)) :
    (0 ≤ 0 ∧ 0 < nz) := Idx.axis_first

theorem ray3d_ray3d_status_L120c12_ctx0 (count i j k max_step nx ny nz : Int) (_ : 2 ≤ nz) (_ : 0 ≤ i) (_ : i ≤ nz - 1) (_ : 2 ≤ nx) (_ : 0 ≤ j) (_ : j ≤ nx - 1) (_ : 2 ≤ ny) (_ : 0 ≤ k) (_ : k ≤ ny - 1) (_ : 1 ≤ count) (_ : 1 ≤ max_step) (_ : ¬ (count ≥ max_step)) :
    (0 ≤ 1 ∧ 1 < 3) := by decide

theorem ray3d_ray3d_status_L120c46_ctx0 (count i j k max_step nx ny nz : Int) (_ : 2 ≤ nz) (_ : 0 ≤ i) (_ : i ≤ nz - 1) (_ : 2 ≤ nx) (_ : 0 ≤ j) (_ : j ≤ nx - 1) (_ : 2 ≤ ny) (_ : 0 ≤ k) (_ : k ≤ ny - 1) (_ : 1 ≤ count) (_ : 1 ≤ max_step) (_ : ¬ (count ≥ max_step)) :
    (1 ≤ nx) := Idx.axis_last

theorem ray3d_ray3d_status_L120c30_ctx0 (count i j k max_step nx ny nz : Int) (_ : 2 ≤ nz) (_ : 0 ≤ i) (_ : i ≤ nz - 1) (_ : 2 ≤ nx) (_ : 0 ≤ j) (_ : j ≤ nx - 1) (_ : 2 ≤ ny) (_ : 0 ≤ k) (_ : k ≤ ny - 1) (_ : 1 ≤ count) (_ : 1 ≤ max_step) (_ : ¬ (count ≥ max_step)) :
    (0 ≤ 1 ∧ 1 < 3) := by decide

theorem ray3d_ray3d_status_L120c39_ctx0 (count i j k max_step nx ny nz : Int) (_ : 2 ≤ nz) (_ : 0 ≤ i) (_ : i ≤ nz - 1) (_ : 2 ≤ nx) (_ : 0 ≤ j) (_ : j ≤ nx - 1) (_ : 2 ≤ ny) (_ : 0 ≤ k) (_ : k ≤ ny - 1) (_ : 1 ≤ count) (_ : 1 ≤ max_step) (_ : ¬ (count ≥ max_step)) :
    (0 ≤ 0 ∧ 0 < nx) := Idx.axis_first

theorem ray3d_ray3d_status_L121c12_ctx0 (count i j k max_step nx ny nz : Int) (_ : 2 ≤ nz) (_ : 0 ≤ i) (_ : i ≤ nz - 1) (_ : 2 ≤ nx) (_ : 0 ≤ j) (_ : j ≤ nx - 1) (_ : 2 ≤ ny) (_ : 0 ≤ k) (_ : k ≤ ny - 1) (_ : 1 ≤ count) (_ : 1 ≤ max_step) (_ : ¬ (count ≥ max_step)) :
    (0 ≤ 2 ∧ 2 < 3) := by decide

theorem ray3d_ray3d_status_L121c46_ctx0 (count i j k max_step nx ny nz : Int) (_ : 2 ≤ nz) (_ : 0 ≤ i) (_ : i ≤ nz - 1) (_ : 2 ≤ nx) (_ : 0 ≤ j) (_ : j ≤ nx - 1) (_ : 2 ≤ ny) (_ : 0 ≤ k) (_ : k ≤ ny - 1) (_ : 1 ≤ count) (_ : 1 ≤ max_step) (_ : ¬ (count ≥ max_step)) :
    (1 ≤ ny) := Idx.axis_last

theorem ray3d_ray3d_status_L121c30_ctx0 (count i j k max_step nx ny nz : Int) (_ : 2 ≤ nz) (_ : 0 ≤ i) (_ : i ≤ nz - 1) (_ : 2 ≤ nx) (_ : 0 ≤ j) (_ : j ≤ nx - 1) (_ : 2 ≤ ny) (_ : 0 ≤ k) (_ : k ≤ ny - 1) (_ : 1 ≤ count) (_ : 1 ≤ max_step) (_ : ¬ (count ≥ max_step)) :
    (0 ≤ 2 ∧ 2 < 3) := by decide

theorem ray3d_ray3d_status_L121c39_ctx0 (count i j k max_step nx ny nz : Int) (_ : 2 ≤ nz) (_ : 0 ≤ i) (_ : i ≤ nz - 1) (_ : 2 ≤ nx) (_ : 0 ≤ j) (_ : j ≤ nx - 1) (_ : 2 ≤ ny) (_ : 0 ≤ k) (_ : k ≤ ny - 1) (_ : 1 ≤ count) (_ : 1 ≤ max_step) (_ : ¬ (count ≥ max_step)) :
    (0 ≤ 0 ∧ 0 < ny) := Idx.axis_first

theorem ray3d_ray3d_status_L123c12_ctx0 (count i j k max_step nx ny nz : Int) (_ : 2 ≤ nz) (_ : 0 ≤ i) (_ : i ≤ nz - 1) (_ : 2 ≤ nx) (_ : 0 ≤ j) (_ : j ≤ nx - 1) (_ : 2 ≤ ny) (_ : 0 ≤ k) (_ : k ≤ ny - 1) (_ : 1 ≤ count) (_ : 1 ≤ max_step) (_ : ¬ (count ≥ max_step)) :
    (0 ≤ count ∧ count < max_step) := by lia

theorem ray3d_ray3d_status_L129c4_ctx0 (count i j k max_step nx ny nz : Int) (_ : 2 ≤ nz) (_ : 0 ≤ i) (_ : i ≤ nz - 1) (_ : 2 ≤ nx) (_ : 0 ≤ j) (_ : j ≤ nx - 1) (_ : 2 ≤ ny) (_ : 0 ≤ k) (_ : k ≤ ny - 1) (_ : 1 ≤ count) (_ : 1 ≤ max_step) (_ : ¬ (count ≥ max_step)) :
    (0 ≤ count ∧ count < max_step) := by lia

theorem fteik2d_fteik2d_vectorized_L672c23_ctx0 (i len_zsrc nsrc : Int) (_ : 0 ≤ nsrc) (_ : nsrc = len_zsrc) (_ : 0 ≤ i) (_ : i < nsrc) :
    (0 ≤ i ∧ i < nsrc) := Idx.range

theorem fteik2d_fteik2d_vectorized_L673c23_ctx0 (i len_zsrc nsrc : Int) (_ : 0 ≤ nsrc) (_ : nsrc = len_zsrc) (_ : 0 ≤ i) (_ : i < nsrc) :
    (0 ≤ i ∧ i < nsrc) := Idx.range

theorem fteik2d_fteik2d_vectorized_L678c8_ctx0 (i len_zsrc nsrc : Int) (_ : 0 ≤ nsrc) (_ : nsrc = len_zsrc) (_ : 0 ≤ i) (_ : i < nsrc) :
    (0 ≤ i ∧ i < nsrc) := Idx.range

theorem fteik2d_fteik2d_vectorized_L678c15_ctx0 (i len_zsrc nsrc : Int) (_ : 0 ≤ nsrc) (_ : nsrc = len_zsrc) (_ : 0 ≤ i) (_ : i < nsrc) :
    (0 ≤ i ∧ i < nsrc) := Idx.range

theorem fteik2d_fteik2d_vectorized_L678c26_ctx0 (i len_zsrc nsrc : Int) (_ : 0 ≤ nsrc) (_ : nsrc = len_zsrc) (_ : 0 ≤ i) (_ : i < nsrc) :
    (0 ≤ i ∧ i < nsrc) := Idx.range

theorem fteik2d_fteik2d_vectorized_L679c26_ctx0 (i len_zsrc nsrc : Int) (_ : 0 ≤ nsrc) (_ : nsrc = len_zsrc) (_ : 0 ≤ i) (_ : i < nsrc) :
    (0 ≤ i ∧ i < nsrc) := Idx.range

theorem fteik2d_fteik2d_vectorized_L679c35_ctx0 (i len_zsrc nsrc : Int) (_ : 0 ≤ nsrc) (_ : nsrc = len_zsrc) (_ : 0 ≤ i) (_ : i < nsrc) :
    (0 ≤ i ∧ i < nsrc) := Idx.range

theorem fteik3d_fteik3d_vectorized_L511c23_ctx0 (i len_zsrc nsrc : Int) (_ : 0 ≤ nsrc) (_ : nsrc = len_zsrc) (_ : 0 ≤ i) (_ : i < nsrc) :
    (0 ≤ i ∧ i < nsrc) := Idx.range

theorem fteik3d_fteik3d_vectorized_L512c23_ctx0 (i len_zsrc nsrc : Int) (_ : 0 ≤ nsrc) (_ : nsrc = len_zsrc) (_ : 0 ≤ i) (_ : i < nsrc) :
    (0 ≤ i ∧ i < nsrc) := Idx.range

theorem fteik3d_fteik3d_vectorized_L513c23_ctx0 (i len_zsrc nsrc : Int) (_ : 0 ≤ nsrc) (_ : nsrc = len_zsrc) (_ : 0 ≤ i) (_ : i < nsrc) :
    (0 ≤ i ∧ i < nsrc) := Idx.range

theorem fteik3d_fteik3d_vectorized_L518c8_ctx0 (i len_zsrc nsrc : Int) (_ : 0 ≤ nsrc) (_ : nsrc = len_zsrc) (_ : 0 ≤ i) (_ : i < nsrc) :
    (0 ≤ i ∧ i < nsrc) := Idx.range

theorem fteik3d_fteik3d_vectorized_L518c15_ctx0 (i len_zsrc nsrc : Int) (_ : 0 ≤ nsrc) (_ : nsrc = len_zsrc) (_ : 0 ≤ i) (_ : i < nsrc) :
    (0 ≤ i ∧ i < nsrc) := Idx.range

theorem fteik3d_fteik3d_vectorized_L518c26_ctx0 (i len_zsrc nsrc : Int) (_ : 0 ≤ nsrc) (_ : nsrc = len_zsrc) (_ : 0 ≤ i) (_ : i < nsrc) :
    (0 ≤ i ∧ i < nsrc) := Idx.range

theorem fteik3d_fteik3d_vectorized_L519c30_ctx0 (i len_zsrc nsrc : Int) (_ : 0 ≤ nsrc) (_ : nsrc = len_zsrc) (_ : 0 ≤ i) (_ : i < nsrc) :
    (0 ≤ i ∧ i < nsrc) := Idx.range

theorem fteik3d_fteik3d_vectorized_L519c39_ctx0 (i len_zsrc nsrc : Int) (_ : 0 ≤ nsrc) (_ : nsrc = len_zsrc) (_ : 0 ≤ i) (_ : i < nsrc) :
    (0 ≤ i ∧ i < nsrc) := Idx.range

theorem fteik3d_fteik3d_vectorized_L519c48_ctx0 (i len_zsrc nsrc : Int) (_ : 0 ≤ nsrc) (_ : nsrc = len_zsrc) (_ : 0 ≤ i) (_ : i < nsrc) :
    (0 ≤ i ∧ i < nsrc) := Idx.range

theorem ray2d_ray2d_vectorized_L130c8_ctx0 (i len_zend n : Int) (_ : 0 ≤ n) (_ : n = len_zend) (_ : 0 ≤ i) (_ : i < n) :
    (0 ≤ i ∧ i < n) := Idx.range

theorem ray2d_ray2d_vectorized_L130c17_ctx0 (i len_zend n : Int) (_ : 0 ≤ n) (_ : n = len_zend) (_ : 0 ≤ i) (_ : i < n) :
    (0 ≤ i ∧ i < n) := Idx.range

theorem ray2d_ray2d_vectorized_L130c28_ctx0 (i len_zend n : Int) (_ : 0 ≤ n) (_ : n = len_zend) (_ : 0 ≤ i) (_ : i < n) :
    (0 ≤ i ∧ i < n) := Idx.range

theorem ray2d_ray2d_vectorized_L135c12_ctx0 (i len_zend n : Int) (_ : 0 ≤ n) (_ : n = len_zend) (_ : 0 ≤ i) (_ : i < n) :
    (0 ≤ i ∧ i < n) := Idx.range

theorem ray2d_ray2d_vectorized_L136c12_ctx0 (i len_zend n : Int) (_ : 0 ≤ n) (_ : n = len_zend) (_ : 0 ≤ i) (_ : i < n) :
    (0 ≤ i ∧ i < n) := Idx.range

theorem ray2d_ray2d_vectorized_L146c21_ctx0 (i len_zend n : Int) (_ : 0 ≤ n) (_ : n = len_zend) (_ : 0 ≤ i) (_ : i < n) :
    (0 ≤ i ∧ i < n) := Idx.range

theorem ray3d_ray3d_vectorized_L201c8_ctx0 (i len_zend n : Int) (_ : 0 ≤ n) (_ : n = len_zend) (_ : 0 ≤ i) (_ : i < n) :
    (0 ≤ i ∧ i < n) := Idx.range

theorem ray3d_ray3d_vectorized_L201c17_ctx0 (i len_zend n : Int) (_ : 0 ≤ n) (_ : n = len_zend) (_ : 0 ≤ i) (_ : i < n) :
    (0 ≤ i ∧ i < n) := Idx.range

theorem ray3d_ray3d_vectorized_L201c28_ctx0 (i len_zend n : Int) (_ : 0 ≤ n) (_ : n = len_zend) (_ : 0 ≤ i) (_ : i < n) :
    (0 ≤ i ∧ i < n) := Idx.range

theorem ray3d_ray3d_vectorized_L208c12_ctx0 (i len_zend n : Int) (_ : 0 ≤ n) (_ : n = len_zend) (_ : 0 ≤ i) (_ : i < n) :
    (0 ≤ i ∧ i < n) := Idx.range

theorem ray3d_ray3d_vectorized_L209c12_ctx0 (i len_zend n : Int) (_ : 0 ≤ n) (_ : n = len_zend) (_ : 0 ≤ i) (_ : i < n) :
    (0 ≤ i ∧ i < n) := Idx.range

theorem ray3d_ray3d_vectorized_L210c12_ctx0 (i len_zend n : Int) (_ : 0 ≤ n) (_ : n = len_zend) (_ : 0 ≤ i) (_ : i < n) :
    (0 ≤ i ∧ i < n) := Idx.range

theorem ray3d_ray3d_vectorized_L221c21_ctx0 (i len_zend n : Int) (_ : 0 ≤ n) (_ : n = len_zend) (_ : 0 ≤ i) (_ : i < n) :
    (0 ≤ i ∧ i < n) := Idx.range

theorem interp2d_interp2d_vectorized_L83c8_ctx0 (i len_xq nq : Int) (_ : 0 ≤ nq) (_ : nq = len_xq) (_ : 0 ≤ i) (_ : i < nq) :
    (0 ≤ i ∧ i < nq) := Idx.range

theorem interp2d_interp2d_vectorized_L83c36_ctx0 (i len_xq nq : Int) (_ : 0 ≤ nq) (_ : nq = len_xq) (_ : 0 ≤ i) (_ : i < nq) :
    (0 ≤ i ∧ i < nq) := Idx.range

theorem interp2d_interp2d_vectorized_L83c43_ctx0 (i len_xq nq : Int) (_ : 0 ≤ nq) (_ : nq = len_xq) (_ : 0 ≤ i) (_ : i < nq) :
    (0 ≤ i ∧ i < nq) := Idx.range

theorem interp3d_interp3d_vectorized_L183c8_ctx0 (i len_xq nq : Int) (_ : 0 ≤ nq) (_ : nq = len_xq) (_ : 0 ≤ i) (_ : i < nq) :
    (0 ≤ i ∧ i < nq) := Idx.range

theorem interp3d_interp3d_vectorized_L183c39_ctx0 (i len_xq nq : Int) (_ : 0 ≤ nq) (_ : nq = len_xq) (_ : 0 ≤ i) (_ : i < nq) :
    (0 ≤ i ∧ i < nq) := Idx.range

theorem interp3d_interp3d_vectorized_L183c46_ctx0 (i len_xq nq : Int) (_ : 0 ≤ nq) (_ : nq = len_xq) (_ : 0 ≤ i) (_ : i < nq) :
    (0 ≤ i ∧ i < nq) := Idx.range

theorem interp3d_interp3d_vectorized_L183c53_ctx0 (i len_xq nq : Int) (_ : 0 ≤ nq) (_ : nq = len_xq) (_ : 0 ≤ i) (_ : i < nq) :
    (0 ≤ i ∧ i < nq) := Idx.range

theorem vinterp2d_vinterp2d_vectorized_L117c8_ctx0 (i len_xq nq : Int) (_ : 0 ≤ nq) (_ : nq = len_xq) (_ : 0 ≤ i) (_ : i < nq) :
    (0 ≤ i ∧ i < nq) := Idx.range

theorem vinterp2d_vinterp2d_vectorized_L117c37_ctx0 (i len_xq nq : Int) (_ : 0 ≤ nq) (_ : nq = len_xq) (_ : 0 ≤ i) (_ : i < nq) :
    (0 ≤ i ∧ i < nq) := Idx.range

theorem vinterp2d_vinterp2d_vectorized_L117c44_ctx0 (i len_xq nq : Int) (_ : 0 ≤ nq) (_ : nq = len_xq) (_ : 0 ≤ i) (_ : i < nq) :
    (0 ≤ i ∧ i < nq) := Idx.range

theorem vinterp3d_vinterp3d_vectorized_L273c8_ctx0 (i len_xq nq : Int) (_ : 0 ≤ nq) (_ : nq = len_xq) (_ : 0 ≤ i) (_ : i < nq) :
    (0 ≤ i ∧ i < nq) := Idx.range

theorem vinterp3d_vinterp3d_vectorized_L274c24_ctx0 (i len_xq nq : Int) (_ : 0 ≤ nq) (_ : nq = len_xq) (_ : 0 ≤ i) (_ : i < nq) :
    (0 ≤ i ∧ i < nq) := Idx.range

theorem vinterp3d_vinterp3d_vectorized_L274c31_ctx0 (i len_xq nq : Int) (_ : 0 ≤ nq) (_ : nq = len_xq) (_ : 0 ≤ i) (_ : i < nq) :
    (0 ≤ i ∧ i < nq) := Idx.range

theorem vinterp3d_vinterp3d_vectorized_L274c38_ctx0 (i len_xq nq : Int) (_ : 0 ≤ nq) (_ : nq = len_xq) (_ : 0 ≤ i) (_ : i < nq) :
    (0 ≤ i ∧ i < nq) := Idx.range

end Fteik.Generated.Sites
