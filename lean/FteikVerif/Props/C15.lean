import FteikVerif.Props.C10
import FteikVerif.Proofs.GridLemmas
/-!
# C15 — grid-honouring rays: end points, stored vertices, breaks on grid lines (termination is not proved)

* `C15_ray_endpoints` (every scalar type; it is `C10_ray_endpoints`, which holds for both modes): a returned
  polyline starts at the source, ends at the end point and has between 2 and `max_step + 1` vertices.
* `C15_stored_vertices_bounded`: the loop returns at most `max_step` rows (the stored vertices, then the source), in
  either mode.
* `C15_noncrossing_step_stores_nothing`: a continuing iteration that leaves the number of stored vertices unchanged
  leaves the stored vertices unchanged.  That it is the iteration that crosses no face (`fac ≥ 1`) is not in the
  statement (see `StepSpec`, `Props/C13`).
* `C15_shrink_lands_on_face`, `C15_shrink_factor_range` (ℝ): `p - fac * delta = face` for `fac = (p - face) / delta`,
  and `0 ≤ fac < 1` when `face ≤ p` and `p - delta < face` - about these expressions, not about the model's `shrink`
  or `rayStep`.  Read on the kernel: in exact arithmetic a shrunk step ends on the face that defined the factor, so a
  stored interior vertex lies on a grid line / plane of the crossed axis and the `1e-8` snap is the identity; no
  theorem states this of the model.
* `C15_source_cell_is_a_cell`: on every axis with at least two nodes whose first node is not beyond the source, the
  source-cell index lies in `0 … n-2` (far boundary included, /repo commit `162f974`).  No ray state with that cell is
  exhibited: that the exit test "ray's cell = source's cell" can be taken is not stated.

Not proved: termination.  Iterations that do not cross a face (`fac = 1`) store nothing and are not
counted by the budget, so no bound on the number of loop iterations is provable without an
assumption on the gradient field; the model is run with a large fuel and reports `fuel`, the check's
watchdog looks for non-terminating rays on the real code.  Nor that the polyline stays inside the grid
(`C10_clamp_in_hull` is about the clamp expression), nor the 1.5-cell tube, nor "a ray is always returned for
homogeneous equal spacing".
-/
namespace Fteik
open Scalar

section generic
variable {α : Type} [Scalar α]

theorem C15_ray_endpoints (c : RayCfg α) (p : Array α) (fuel : Nat) (r : Array (Array α))
    (h : rayPolyline (rayTrace c p fuel) = .ok r) :
    r[0]? = some c.src ∧ r[r.size - 1]? = some p ∧ r.size ≤ c.maxStep + 1 ∧ 2 ≤ r.size :=
  C10_ray_endpoints c p fuel r h

theorem C15_stored_vertices_bounded (c : RayCfg α) (fuel : Nat) (s : RaySt α) (v : Array (Array α))
    (h : rayLoop c fuel s = .ok v) : v.size ≤ c.maxStep := by
  obtain ⟨w, rfl, hw, _⟩ := rayLoop_ok c fuel s v h
  rw [Array.size_push]
  exact hw

theorem C15_noncrossing_step_stores_nothing (c : RayCfg α) (s s' : RaySt α) (hh : c.honor = true)
    (hs : rayStep c s = .cont s') (hsz : s'.verts.size = s.verts.size) : s'.verts = s.verts := by
  rcases rayStep_verts c s s' (.inl hs) with h | ⟨p, h⟩
  · exact h
  · rw [h, Array.size_push] at hsz
    omega

theorem C15_shrink_lands_on_face (p face delta : ℝ) (hd : delta ≠ 0) :
    p - ((p - face) / delta) * delta = face := by
  rw [div_mul_cancel₀ _ hd, sub_sub_cancel]

theorem C15_shrink_factor_range (p face delta : ℝ) (h1 : face ≤ p) (h2 : p - delta < face) :
    0 ≤ (p - face) / delta ∧ (p - face) / delta < 1 := by
  have hd : 0 < delta := (sub_lt_self_iff p).1 (h2.trans_le h1)
  exact ⟨div_nonneg (sub_nonneg.2 h1) hd.le, (div_lt_one hd).2 (sub_lt_comm.1 h2)⟩

theorem srcCell_getD (c : RayCfg α) (a : Nat) (ha : a < c.src.size) :
    (srcCell c).getD a 0 = min (Int.ofNat (searchsortedRight (c.axes.getD a #[]) (get1 c.src a)) - 1)
      (Int.ofNat (c.axes.getD a #[]).size - 2) := by
  unfold srcCell
  rw [Array.getD_eq_getD_getElem?, Array.getElem?_map, Array.getElem?_range, if_pos ha]
  rfl

theorem C15_source_cell_is_a_cell (c : RayCfg α) (a : Nat) (ha : a < c.src.size)
    (hn : 2 ≤ (c.axes.getD a #[]).size) (hin : le (get1 (c.axes.getD a #[]) 0) (get1 c.src a) = true) :
    0 ≤ (srcCell c).getD a 0 ∧ (srcCell c).getD a 0 ≤ Int.ofNat (c.axes.getD a #[]).size - 2 := by
  have hpos := ss_pos (c.axes.getD a #[]) (get1 c.src a) (by omega) hin
  rw [srcCell_getD c a ha]
  simp only [Int.ofNat_eq_natCast]
  omega

end generic

end Fteik
