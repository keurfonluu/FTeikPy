import FteikVerif.Proofs.FixedPoint
import FteikVerif.Proofs.Physics
/-!
# C04 — first-arrival bounds: the bound across one grid edge at a fixed point of the 2-D sweep

Parametric in the scalar type, the order facts being explicit hypotheses: `<` irreflexive, transitive and negatively
transitive.  All three are proved for ℝ (`Proofs/RealScalar`).  `LtNegTrans Float` is false (a NaN is neither below
nor above anything), so the theorems that assume it cannot be used at `Float`; the other two hold there
(`Proofs/FloatOrder`).

* `C04_fixed_point_no_candidate_below`: if `sweepTT` (what `sweep2d` does to the traveltime grid,
  `sweep2d_tt_eq_sweepTT`) leaves the grid unchanged, then at every visit of every node none of the candidates (both
  1-D edge candidates, the 2-D candidate) is strictly below the stored time — in the scalar's own arithmetic.
* `C04_schedule_covers_Z` / `_X`: for every shape with ≥ 2 nodes per axis every grid edge is relaxed
  in both directions by some quadrant of the sweep (no order hypothesis).
* `C04_edge_bound_Z` / `_X`: hence at a fixed point, on a rectangular grid, the times of two adjacent nodes differ by at
  most (edge length) × (minimum slowness of the cells adjoining the edge), in both directions:
  `¬ (t[a] + d·E < t[b])` and `¬ (t[b] + d·E < t[a])`.

ℝ: `C04_fourPoint_admissible`, an inequality between reals that mentions no definition of the model.  Its expression
is the radicand of the 4-point formula of `sweep` with `dz2i = 1/dz/dz`, `dx2i = 1/dx/dx` as `sweep2d` computes them,
its hypotheses `h1`, `h2` are the first two conjuncts of that operator's guard; no theorem applies it to `planeWave2`.
It is an instance of `fourPoint_radicand_nonneg_of` (`Proofs/Physics.lean`).

Not proved: "never slower than a grid path" (no theorem adds the edge bounds up along a path from the source); the
physical lower bound `t ≥ s_min · distance` (true only up to the discretisation tolerance for the 2-D/3-D operators);
any edge bound for the 3-D sweep.  The last two are checked by the oracle.
-/
namespace Fteik
open Scalar

variable {α : Type} [Scalar α]

theorem C04_fixed_point_no_candidate_below (hi : LtIrrefl α) (ht : LtTrans α) (hn : LtNegTrans α)
    (p : Par2 α) (slow : Grid2 α) (tt : Grid2 α) (hfix : Grid2.Same (sweepTT p slow tt) tt)
    (x : Nat × Nat × Dir2) (hx : x ∈ schedule2 p.nz p.nx)
    (hin : x.1 < tt.size ∧ x.2.1 < (tt.getD x.1 #[]).size) :
    lt (candidates2 p slow tt x.1 x.2.1 x.2.2).1 (tt.get zero x.1 x.2.1) = false
    ∧ lt (candidates2 p slow tt x.1 x.2.1 x.2.2).2.1 (tt.get zero x.1 x.2.1) = false
    ∧ lt (candidates2 p slow tt x.1 x.2.1 x.2.2).2.2 (tt.get zero x.1 x.2.1) = false := by
  obtain ⟨pre, suf, hl⟩ := List.append_of_mem hx
  -- `sweepTT` is by definition the fold over `schedule2`, here split at the visit `x`
  obtain ⟨hp, hq⟩ := fixed_sweep_steps hi ht p slow tt _ pre suf x hl hfix
  obtain ⟨s1, s2⟩ := foldl_ttUpdate_shape p slow pre tt
  -- the update at `x` stores `pymin3 (old, …)` and reads the start grid before and after
  have hv := hq x.1 x.2.1
  rw [ttUpdate, Grid2.get_set_self ⟨by rw [s1]; exact hin.1, by rw [s2]; exact hin.2⟩,
    candidates2_congr p slow _ tt hp, hp x.1 x.2.1] at hv
  obtain ⟨ha, hb⟩ := pymin3_eq_left hi ht _ _ _ hv
  obtain ⟨h1, h2⟩ := pymin2_not_lt ht hn _ _ _ ha
  exact ⟨h1, h2, hb⟩

/-- one half of `schedule2`: for each `j`, two runs over `i` with a direction each -/
theorem mem_quadrants {β : Type} (js is₁ is₂ : List Nat) (d₁ d₂ d : β) (i j : Nat) :
    (i, j, d) ∈ (js.flatMap fun j => (is₁.map fun i => (i, j, d₁)) ++ (is₂.map fun i => (i, j, d₂))) ↔
      (d = d₁ ∧ i ∈ is₁ ∧ j ∈ js) ∨ (d = d₂ ∧ i ∈ is₂ ∧ j ∈ js) := by
  simp only [List.mem_flatMap, List.mem_append, List.mem_map, Prod.mk.injEq]
  constructor
  · rintro ⟨_, hj, ⟨_, hi, rfl, rfl, rfl⟩ | ⟨_, hi, rfl, rfl, rfl⟩⟩
    · exact .inl ⟨rfl, hi, hj⟩
    · exact .inr ⟨rfl, hi, hj⟩
  · rintro (⟨rfl, hi, hj⟩ | ⟨rfl, hi, hj⟩)
    · exact ⟨j, hj, .inl ⟨i, hi, rfl, rfl, rfl⟩⟩
    · exact ⟨j, hj, .inr ⟨i, hi, rfl, rfl, rfl⟩⟩

theorem mem_schedule2 (nz nx i j : Nat) (d : Dir2) :
    (i, j, d) ∈ schedule2 nz nx ↔
      (d = dirSE ∧ i ∈ rangeUp nz ∧ j ∈ rangeUp nx) ∨ (d = dirNE ∧ i ∈ rangeDown nz ∧ j ∈ rangeUp nx)
      ∨ (d = dirSW ∧ i ∈ rangeUp nz ∧ j ∈ rangeDown nx) ∨ (d = dirNW ∧ i ∈ rangeDown nz ∧ j ∈ rangeDown nx) := by
  rw [schedule2, List.mem_append, mem_quadrants, mem_quadrants, or_assoc]

/-- the quadrant that sweeps Z upwards iff `zu` and X upwards iff `xu` (`dirSE = quad true true`, …) -/
def quad (zu xu : Bool) : Dir2 := ⟨zu.toNat, xu.toNat, if zu then 1 else -1, if xu then 1 else -1⟩

theorem quad_mem_schedule2 {nz nx i j : Nat} {zu xu : Bool} (hi : i ∈ rangeDir zu nz) (hj : j ∈ rangeDir xu nx) :
    (i, j, quad zu xu) ∈ schedule2 nz nx := by
  cases zu <;> cases xu
  · exact (mem_schedule2 ..).mpr (.inr (.inr (.inr ⟨rfl, hi, hj⟩)))
  · exact (mem_schedule2 ..).mpr (.inr (.inl ⟨rfl, hi, hj⟩))
  · exact (mem_schedule2 ..).mpr (.inr (.inr (.inl ⟨rfl, hi, hj⟩)))
  · exact (mem_schedule2 ..).mpr (.inl ⟨rfl, hi, hj⟩)

theorem C04_schedule_covers_Z (nz nx i j : Nat) (hi : i + 1 < nz) (hj : j < nx) (hnx : 2 ≤ nx) :
    (∃ d, (i + 1, j, d) ∈ schedule2 nz nx ∧ d.sgntz = 1 ∧ d.sgnvz = 1)
    ∧ (∃ d, (i, j, d) ∈ schedule2 nz nx ∧ d.sgntz = -1 ∧ d.sgnvz = 0) := by
  obtain ⟨xu, hx⟩ := exists_rangeDir hnx hj
  exact ⟨⟨quad true xu, quad_mem_schedule2 ((mem_rangeUp ..).mpr ⟨Nat.succ_pos i, hi⟩) hx, rfl, rfl⟩,
    ⟨quad false xu, quad_mem_schedule2 ((mem_rangeDown ..).mpr hi) hx, rfl, rfl⟩⟩

theorem C04_schedule_covers_X (nz nx i j : Nat) (hi : i < nz) (hj : j + 1 < nx) (hnz : 2 ≤ nz) :
    (∃ d, (i, j + 1, d) ∈ schedule2 nz nx ∧ d.sgntx = 1 ∧ d.sgnvx = 1)
    ∧ (∃ d, (i, j, d) ∈ schedule2 nz nx ∧ d.sgntx = -1 ∧ d.sgnvx = 0) := by
  obtain ⟨zu, hz⟩ := exists_rangeDir hnz hi
  exact ⟨⟨quad zu true, quad_mem_schedule2 hz ((mem_rangeUp ..).mpr ⟨Nat.succ_pos j, hj⟩), rfl, rfl⟩,
    ⟨quad zu false, quad_mem_schedule2 hz ((mem_rangeDown ..).mpr hj), rfl, rfl⟩⟩

def Grid2.Rect (g : Grid2 α) (nz nx : Nat) : Prop := g.size = nz ∧ ∀ k, k < nz → (g.getD k #[]).size = nx

theorem fixed_point_visit_bounds (hi : LtIrrefl α) (ht : LtTrans α) (hn : LtNegTrans α)
    (p : Par2 α) (slow : Grid2 α) (tt : Grid2 α) (hrect : Grid2.Rect tt p.nz p.nx)
    (hfix : Grid2.Same (sweepTT p slow tt) tt) {i j : Nat} {d : Dir2}
    (hx : (i, j, d) ∈ schedule2 p.nz p.nx) (hiz : i < p.nz) (hj : j < p.nx) :
    lt (tt.get zero (nb i d.sgntz) j + p.dz * edgeSlowZ p slow (nb i d.sgnvz) j) (tt.get zero i j) = false
    ∧ lt (tt.get zero i (nb j d.sgntx) + p.dx * edgeSlowX p slow i (nb j d.sgnvx)) (tt.get zero i j) = false := by
  have h := C04_fixed_point_no_candidate_below hi ht hn p slow tt hfix (i, j, d) hx
    ⟨by rw [hrect.1]; exact hiz, by rw [hrect.2 _ hiz]; exact hj⟩
  exact ⟨h.1, h.2.1⟩

theorem C04_edge_bound_Z (hi : LtIrrefl α) (ht : LtTrans α) (hn : LtNegTrans α)
    (p : Par2 α) (slow : Grid2 α) (tt : Grid2 α) (hrect : Grid2.Rect tt p.nz p.nx) (hnx : 2 ≤ p.nx)
    (hfix : Grid2.Same (sweepTT p slow tt) tt) (i j : Nat) (hiz : i + 1 < p.nz) (hj : j < p.nx) :
    lt (tt.get zero i j + p.dz * edgeSlowZ p slow i j) (tt.get zero (i + 1) j) = false
    ∧ lt (tt.get zero (i + 1) j + p.dz * edgeSlowZ p slow i j) (tt.get zero i j) = false := by
  obtain ⟨⟨d1, hm1, ht1, hv1⟩, ⟨d2, hm2, ht2, hv2⟩⟩ := C04_schedule_covers_Z p.nz p.nx i j hiz hj hnx
  have h1 := (fixed_point_visit_bounds hi ht hn p slow tt hrect hfix hm1 hiz hj).1
  have h2 := (fixed_point_visit_bounds hi ht hn p slow tt hrect hfix hm2 (Nat.lt_of_succ_lt hiz) hj).1
  rw [ht1, hv1, nb_succ_one] at h1
  rw [ht2, hv2, nb_neg_one, nb_zero] at h2
  exact ⟨h1, h2⟩

theorem C04_edge_bound_X (hi : LtIrrefl α) (ht : LtTrans α) (hn : LtNegTrans α)
    (p : Par2 α) (slow : Grid2 α) (tt : Grid2 α) (hrect : Grid2.Rect tt p.nz p.nx) (hnz : 2 ≤ p.nz)
    (hfix : Grid2.Same (sweepTT p slow tt) tt) (i j : Nat) (hiz : i < p.nz) (hj : j + 1 < p.nx) :
    lt (tt.get zero i j + p.dx * edgeSlowX p slow i j) (tt.get zero i (j + 1)) = false
    ∧ lt (tt.get zero i (j + 1) + p.dx * edgeSlowX p slow i j) (tt.get zero i j) = false := by
  obtain ⟨⟨d1, hm1, ht1, hv1⟩, ⟨d2, hm2, ht2, hv2⟩⟩ := C04_schedule_covers_X p.nz p.nx i j hiz hj hnz
  have h1 := (fixed_point_visit_bounds hi ht hn p slow tt hrect hfix hm1 hiz hj).2
  have h2 := (fixed_point_visit_bounds hi ht hn p slow tt hrect hfix hm2 hiz (Nat.lt_of_succ_lt hj)).2
  rw [ht1, hv1, nb_succ_one] at h1
  rw [ht2, hv2, nb_neg_one, nb_zero] at h2
  exact ⟨h1, h2⟩

theorem C04_fourPoint_admissible (dz dx vref tv te tev : ℝ) (hdz : 0 < dz) (hdx : 0 < dx) (hv : 0 ≤ vref)
    (h1 : tv ≤ te + dx * vref) (h2 : te ≤ tv + dz * vref) :
    0 ≤ 4 * vref ^ 2 * (1 / dz / dz + 1 / dx / dx)
        - (1 / dz / dz) * (1 / dx / dx) * (tev + te - tv - (tev - te + tv)) ^ 2 := by
  -- the squared difference is `2 * (te - tv)`
  rw [add_sub_assoc, sub_add, add_sub_sub_cancel, ← two_mul]
  -- along Z if `te ≥ tv` (guard `h2`), along X otherwise (guard `h1`)
  rcases le_total tv te with h | h
  · refine fourPoint_radicand_nonneg_of (inv_spacing_pos hdz).le (inv_spacing_pos hdx).le (edge_admissible hdz ?_)
    rw [abs_of_nonneg (sub_nonneg.2 h)]
    exact sub_le_iff_le_add'.2 h2
  · rw [add_comm, mul_comm (1 / dz / dz)]
    refine fourPoint_radicand_nonneg_of (inv_spacing_pos hdx).le (inv_spacing_pos hdz).le (edge_admissible hdx ?_)
    rw [abs_sub_comm, abs_of_nonneg (sub_nonneg.2 h)]
    exact sub_le_iff_le_add'.2 h1

end Fteik
