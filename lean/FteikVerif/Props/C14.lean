import FteikVerif.Proofs.InterpLemmas
/-!
# C14 — grid evaluation is multilinear interpolation on the node axes

Exact-arithmetic (ℝ) theorems about the model of `_interp2d` / `_interp3d`, for every strictly
increasing axis with ≥ 2 nodes, every value field and every query point in the closed hull —
all `3^d` boundary classes at once (the per-axis rule of the model, see `Model/Interp.lean`):

* `interp2d_along`, `interp3d_along`: the result is the grid values interpolated along one axis after the
  other (`AxisCell.along`); the dummy values of the source never contribute.  The weights theorems write this nest
  out (`lerp_lerp`, `lerp_lerp_lerp`); `at_node`, `between` and the multilinear-exactness theorems apply to it one lemma
  of `Proofs/InterpLemmas.lean` per axis (`along_node`, `along_between`, `along_affine`).  (`hsx : x.size = (v.size - 1) + 1`
  and its like: the kernel hands `n = v.size - 1` to `axisCell`, whose facts are stated for `x.size = n + 1`.)
* `C14_interp2d_weights`, `C14_interp3d_weights`: the same written out as
  `Σ_{a,b(,c)} w_a u_b (t_c) · v[i1+a, j1+b(, k1+c)]` with per-axis weights
  `w_0 = (x2−q)/(x2−x1)`, `w_1 = (q−x1)/(x2−x1)` (`AxisCell.w0/w1`).  That `w ≥ 0`, `w_0 + w_1 = 1`, and `w_1 = 0`
  whenever the upper neighbour is the synthesised one are lemmas on `AxisFacts` (`Proofs/InterpLemmas.lean`), not
  part of these statements.
* corollaries: value at a node, bounds by the corner values (convexity), exact reproduction of
  multilinear functions, fill value outside the hull / for NaN (parametric in the scalar).

Not proved here: continuity across cell faces and equivariance under axis relabelling as statements of their own;
agreement with SciPy (checked against `RegularGridInterpolator` by the oracle).
-/
namespace Fteik
open Scalar

theorem interp2d_along (x y : Array ℝ) (v : Grid2 ℝ) (xq yq fval : ℝ)
    (hx : StrictAxis x) (hy : StrictAxis y)
    (hsx : x.size = (v.size - 1) + 1) (hsy : y.size = ((v.getD 0 #[]).size - 1) + 1)
    (hinx : inside x xq = true) (hiny : inside y yq = true) :
    interp2d x y v xq yq fval =
      (axisCell x (v.size - 1) xq).along xq fun i => (axisCell y ((v.getD 0 #[]).size - 1) yq).along yq fun j =>
        v.get 0 i j := by
  have fa := axisCell_facts x _ xq hx hsx hinx
  have fb := axisCell_facts y _ yq hy hsy hiny
  -- unfolded, the kernel is the corner sum `cellForm2` of the four values it reads, dummies among them
  -- (`simp only` and not `show`: defeq through the `Scalar ℝ` instance costs several times more)
  simp only [interp2d, hinx, hiny, Bool.and_self, Bool.not_true, Bool.false_eq_true, if_false, real_abs,
    real_zero, real_one]
  refine (cellForm2_eq_lerp fa fb ..).trans ?_
  -- one `lerp_congr` per axis removes the dummies
  exact fa.lerp_congr (fb.lerp_congr rfl fun hb => dummy_off hb) fun ha =>
    fb.lerp_congr (dummy_off ha) fun hb => dummy_off (bor_false ha hb)

theorem C14_interp2d_weights (x y : Array ℝ) (v : Grid2 ℝ) (xq yq fval : ℝ)
    (hx : StrictAxis x) (hy : StrictAxis y)
    (hsx : x.size = (v.size - 1) + 1) (hsy : y.size = ((v.getD 0 #[]).size - 1) + 1)
    (hinx : inside x xq = true) (hiny : inside y yq = true) :
    let a := axisCell x (v.size - 1) xq
    let b := axisCell y ((v.getD 0 #[]).size - 1) yq
    interp2d x y v xq yq fval =
      a.w0 xq * b.w0 yq * v.get 0 a.i1 b.i1 + a.w1 xq * b.w0 yq * v.get 0 (a.i1 + 1) b.i1
      + a.w0 xq * b.w1 yq * v.get 0 a.i1 (b.i1 + 1) + a.w1 xq * b.w1 yq * v.get 0 (a.i1 + 1) (b.i1 + 1) :=
  (interp2d_along x y v xq yq fval hx hy hsx hsy hinx hiny).trans (AxisCell.lerp_lerp ..)

theorem interp3d_along (x y z : Array ℝ) (v : Grid3 ℝ) (xq yq zq fval : ℝ)
    (hx : StrictAxis x) (hy : StrictAxis y) (hz : StrictAxis z)
    (hsx : x.size = (v.size - 1) + 1) (hsy : y.size = ((v.getD 0 #[]).size - 1) + 1)
    (hsz : z.size = (((v.getD 0 #[]).getD 0 #[]).size - 1) + 1)
    (hinx : inside x xq = true) (hiny : inside y yq = true) (hinz : inside z zq = true) :
    interp3d x y z v xq yq zq fval =
      (axisCell x (v.size - 1) xq).along xq fun i => (axisCell y ((v.getD 0 #[]).size - 1) yq).along yq fun j =>
        (axisCell z (((v.getD 0 #[]).getD 0 #[]).size - 1) zq).along zq fun k => v.get 0 i j k := by
  have fa := axisCell_facts x _ xq hx hsx hinx
  have fb := axisCell_facts y _ yq hy hsy hiny
  have fc := axisCell_facts z _ zq hz hsz hinz
  simp only [interp3d, hinx, hiny, hinz, Bool.and_self, Bool.not_true, Bool.false_eq_true, if_false, real_abs,
    real_zero, real_one]
  refine (cellForm3_eq_lerp fa fb fc ..).trans ?_
  exact fa.lerp_congr
    (fb.lerp_congr (fc.lerp_congr rfl fun hc => dummy_off hc) fun hb =>
      fc.lerp_congr (dummy_off hb) fun hc => dummy_off (bor_false hb hc))
    fun ha => fb.lerp_congr (fc.lerp_congr (dummy_off ha) fun hc => dummy_off (bor_false ha hc)) fun hb =>
      fc.lerp_congr (dummy_off (bor_false ha hb)) fun hc => dummy_off (bor_false (bor_false ha hb) hc)

theorem C14_interp3d_weights (x y z : Array ℝ) (v : Grid3 ℝ) (xq yq zq fval : ℝ)
    (hx : StrictAxis x) (hy : StrictAxis y) (hz : StrictAxis z)
    (hsx : x.size = (v.size - 1) + 1) (hsy : y.size = ((v.getD 0 #[]).size - 1) + 1)
    (hsz : z.size = (((v.getD 0 #[]).getD 0 #[]).size - 1) + 1)
    (hinx : inside x xq = true) (hiny : inside y yq = true) (hinz : inside z zq = true) :
    let a := axisCell x (v.size - 1) xq
    let b := axisCell y ((v.getD 0 #[]).size - 1) yq
    let c := axisCell z (((v.getD 0 #[]).getD 0 #[]).size - 1) zq
    interp3d x y z v xq yq zq fval =
      a.w0 xq * b.w0 yq * c.w0 zq * v.get 0 a.i1 b.i1 c.i1
      + a.w1 xq * b.w0 yq * c.w0 zq * v.get 0 (a.i1 + 1) b.i1 c.i1
      + a.w0 xq * b.w1 yq * c.w0 zq * v.get 0 a.i1 (b.i1 + 1) c.i1
      + a.w1 xq * b.w1 yq * c.w0 zq * v.get 0 (a.i1 + 1) (b.i1 + 1) c.i1
      + a.w0 xq * b.w0 yq * c.w1 zq * v.get 0 a.i1 b.i1 (c.i1 + 1)
      + a.w1 xq * b.w0 yq * c.w1 zq * v.get 0 (a.i1 + 1) b.i1 (c.i1 + 1)
      + a.w0 xq * b.w1 yq * c.w1 zq * v.get 0 a.i1 (b.i1 + 1) (c.i1 + 1)
      + a.w1 xq * b.w1 yq * c.w1 zq * v.get 0 (a.i1 + 1) (b.i1 + 1) (c.i1 + 1) :=
  (interp3d_along x y z v xq yq zq fval hx hy hz hsx hsy hsz hinx hiny hinz).trans (AxisCell.lerp_lerp_lerp ..)

theorem C14_interp2d_at_node (x y : Array ℝ) (v : Grid2 ℝ) (fval : ℝ) (i j : Nat)
    (hx : StrictAxis x) (hy : StrictAxis y)
    (hsx : x.size = (v.size - 1) + 1) (hsy : y.size = ((v.getD 0 #[]).size - 1) + 1)
    (hi : i < x.size) (hj : j < y.size) :
    interp2d x y v (get1 x i) (get1 y j) fval = v.get 0 i j := by
  rw [interp2d_along x y v _ _ fval hx hy hsx hsy (inside_node x i hx hi) (inside_node y j hy hj),
    along_node x _ i hx hsx hi, along_node y _ j hy hsy hj]

/-- `hb` asks for bounds on the corners that carry weight only: the upper corner along an axis is left out where
the query sits on the last node of that axis (`edge`), where it is the synthesised neighbour. -/
theorem C14_interp2d_between (x y : Array ℝ) (v : Grid2 ℝ) (xq yq fval m M : ℝ)
    (hx : StrictAxis x) (hy : StrictAxis y)
    (hsx : x.size = (v.size - 1) + 1) (hsy : y.size = ((v.getD 0 #[]).size - 1) + 1)
    (hinx : inside x xq = true) (hiny : inside y yq = true)
    (hb : ∀ da db : Nat, da ≤ 1 → db ≤ 1 →
      (da = 1 → (axisCell x (v.size - 1) xq).edge = false) →
      (db = 1 → (axisCell y ((v.getD 0 #[]).size - 1) yq).edge = false) →
      m ≤ v.get 0 ((axisCell x (v.size - 1) xq).i1 + da) ((axisCell y ((v.getD 0 #[]).size - 1) yq).i1 + db)
      ∧ v.get 0 ((axisCell x (v.size - 1) xq).i1 + da) ((axisCell y ((v.getD 0 #[]).size - 1) yq).i1 + db) ≤ M) :
    m ≤ interp2d x y v xq yq fval ∧ interp2d x y v xq yq fval ≤ M := by
  rw [interp2d_along x y v xq yq fval hx hy hsx hsy hinx hiny]
  exact (axisCell_facts x _ xq hx hsx hinx).along_between fun da hda ea =>
    (axisCell_facts y _ yq hy hsy hiny).along_between fun db hdb eb => hb da db hda hdb ea eb

theorem C14_interp2d_bilinear_exact (x y : Array ℝ) (v : Grid2 ℝ) (xq yq fval c0 c1 c2 c3 : ℝ)
    (hx : StrictAxis x) (hy : StrictAxis y)
    (hsx : x.size = (v.size - 1) + 1) (hsy : y.size = ((v.getD 0 #[]).size - 1) + 1)
    (hinx : inside x xq = true) (hiny : inside y yq = true)
    (hv : ∀ i j, i < x.size → j < y.size →
      v.get 0 i j = c0 + c1 * get1 x i + c2 * get1 y j + c3 * get1 x i * get1 y j) :
    interp2d x y v xq yq fval = c0 + c1 * xq + c2 * yq + c3 * xq * yq := by
  rw [interp2d_along x y v xq yq fval hx hy hsx hsy hinx hiny]
  -- axis by axis: the samples are affine in the node abscissa of that axis, and `along` puts the query's coordinate
  -- in its place (`apply` reads `F` off the goal: the right-hand side as a function of that coordinate)
  apply (axisCell_facts x _ xq hx hsx hinx).along_affine hsx
  · intro; ring
  intro i hi
  apply (axisCell_facts y _ yq hy hsy hiny).along_affine hsy
  · intro; ring
  exact fun j hj => hv i j hi hj

section generic
variable {α : Type} [Scalar α]

theorem C14_interp2d_fill (x y : Array α) (v : Grid2 α) (xq yq fval : α)
    (h : inside x xq = false ∨ inside y yq = false) : interp2d x y v xq yq fval = fval := by
  unfold interp2d
  rcases h with h | h <;> simp [h]

theorem C14_interp3d_fill (x y z : Array α) (v : Grid3 α) (xq yq zq fval : α)
    (h : inside x xq = false ∨ inside y yq = false ∨ inside z zq = false) :
    interp3d x y z v xq yq zq fval = fval := by
  unfold interp3d
  rcases h with h | h | h <;> simp [h]

/-- a coordinate that compares false with everything (NaN) is outside -/
theorem inside_false_of_incomparable (x : Array α) (q : α) (h : ∀ a : α, le a q = false) :
    inside x q = false := by
  simp [inside, h]

end generic

/-- non-vacuity: a concrete strictly increasing axis -/
example : StrictAxis (#[0, 1, 3] : Array ℝ) :=
  ⟨by decide, fun i hi => match i, hi with
    | 0, _ => show (0 : ℝ) < 1 from zero_lt_one
    | 1, _ => show (1 : ℝ) < 3 by norm_num⟩

theorem C14_interp3d_at_node (x y z : Array ℝ) (v : Grid3 ℝ) (fval : ℝ) (i j k : Nat)
    (hx : StrictAxis x) (hy : StrictAxis y) (hz : StrictAxis z)
    (hsx : x.size = (v.size - 1) + 1) (hsy : y.size = ((v.getD 0 #[]).size - 1) + 1)
    (hsz : z.size = (((v.getD 0 #[]).getD 0 #[]).size - 1) + 1)
    (hi : i < x.size) (hj : j < y.size) (hk : k < z.size) :
    interp3d x y z v (get1 x i) (get1 y j) (get1 z k) fval = v.get 0 i j k := by
  rw [interp3d_along x y z v _ _ _ fval hx hy hz hsx hsy hsz (inside_node x i hx hi)
    (inside_node y j hy hj) (inside_node z k hz hk),
    along_node x _ i hx hsx hi, along_node y _ j hy hsy hj, along_node z _ k hz hsz hk]

theorem C14_interp3d_between (x y z : Array ℝ) (v : Grid3 ℝ) (xq yq zq fval m M : ℝ)
    (hx : StrictAxis x) (hy : StrictAxis y) (hz : StrictAxis z)
    (hsx : x.size = (v.size - 1) + 1) (hsy : y.size = ((v.getD 0 #[]).size - 1) + 1)
    (hsz : z.size = (((v.getD 0 #[]).getD 0 #[]).size - 1) + 1)
    (hinx : inside x xq = true) (hiny : inside y yq = true) (hinz : inside z zq = true)
    (hb : ∀ da db dc : Nat, da ≤ 1 → db ≤ 1 → dc ≤ 1 →
      (da = 1 → (axisCell x (v.size - 1) xq).edge = false) →
      (db = 1 → (axisCell y ((v.getD 0 #[]).size - 1) yq).edge = false) →
      (dc = 1 → (axisCell z (((v.getD 0 #[]).getD 0 #[]).size - 1) zq).edge = false) →
      m ≤ v.get 0 ((axisCell x (v.size - 1) xq).i1 + da) ((axisCell y ((v.getD 0 #[]).size - 1) yq).i1 + db)
            ((axisCell z (((v.getD 0 #[]).getD 0 #[]).size - 1) zq).i1 + dc)
      ∧ v.get 0 ((axisCell x (v.size - 1) xq).i1 + da) ((axisCell y ((v.getD 0 #[]).size - 1) yq).i1 + db)
            ((axisCell z (((v.getD 0 #[]).getD 0 #[]).size - 1) zq).i1 + dc) ≤ M) :
    m ≤ interp3d x y z v xq yq zq fval ∧ interp3d x y z v xq yq zq fval ≤ M := by
  rw [interp3d_along x y z v xq yq zq fval hx hy hz hsx hsy hsz hinx hiny hinz]
  exact (axisCell_facts x _ xq hx hsx hinx).along_between fun da hda ea =>
    (axisCell_facts y _ yq hy hsy hiny).along_between fun db hdb eb =>
      (axisCell_facts z _ zq hz hsz hinz).along_between fun dc hdc ec => hb da db dc hda hdb hdc ea eb ec

theorem C14_interp3d_trilinear_exact (x y z : Array ℝ) (v : Grid3 ℝ) (xq yq zq fval c0 c1 c2 c3 c4 c5 c6 c7 : ℝ)
    (hx : StrictAxis x) (hy : StrictAxis y) (hz : StrictAxis z)
    (hsx : x.size = (v.size - 1) + 1) (hsy : y.size = ((v.getD 0 #[]).size - 1) + 1)
    (hsz : z.size = (((v.getD 0 #[]).getD 0 #[]).size - 1) + 1)
    (hinx : inside x xq = true) (hiny : inside y yq = true) (hinz : inside z zq = true)
    (hv : ∀ i j k, i < x.size → j < y.size → k < z.size →
      v.get 0 i j k = c0 + c1 * get1 x i + c2 * get1 y j + c3 * get1 z k + c4 * get1 x i * get1 y j
        + c5 * get1 x i * get1 z k + c6 * get1 y j * get1 z k + c7 * get1 x i * get1 y j * get1 z k) :
    interp3d x y z v xq yq zq fval
      = c0 + c1 * xq + c2 * yq + c3 * zq + c4 * xq * yq + c5 * xq * zq + c6 * yq * zq + c7 * xq * yq * zq := by
  rw [interp3d_along x y z v xq yq zq fval hx hy hz hsx hsy hsz hinx hiny hinz]
  apply (axisCell_facts x _ xq hx hsx hinx).along_affine hsx
  · intro; ring
  intro i hi
  apply (axisCell_facts y _ yq hy hsy hiny).along_affine hsy
  · intro; ring
  intro j hj
  apply (axisCell_facts z _ zq hz hsz hinz).along_affine hsz
  · intro; ring
  exact fun k hk => hv i j k hi hj hk

end Fteik
