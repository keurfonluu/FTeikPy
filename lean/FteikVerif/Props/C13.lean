import FteikVerif.Model.Api
/-!
# C13 — invalid requests are reported by raising (and C08's dispatch/re-assembly)

Decision logic, parametric in the scalar type:

* `C13_fteik2d_error_iff` / `3d`: the solver kernel fails iff the source is outside the closed
  model, and then with `ValueError("source out of bound")`; nothing else is ever raised.
* `C13_solve_list_eq_mapM` / `3d`: the list (parallel) wrapper returns exactly what mapping the
  single call over the list returns — same results in input order, and the same exception when an
  item is invalid (pre-validation + parallel loop = `mapM`).
* `C13_ray_list_eq_mapM`: same for rays (statuses raised after the loop, in input order).
* `C13_ray_error_classes`: a failing ray request fails with `end point out of bound` and the end point outside the
  node hull, or with `maximum number of steps reached` or — model only — fuel and the end point inside.  That an
  outside end point does fail is said only by the first disjunct of `rayTrace_cases`.
* `C13_gradient_guard`, `C13_solve_without_gradient_has_none` (2-D objects `TT2`, `Eik2` only): a grid solved
  without `return_gradient` carries no gradient, and gradient access on it raises `noGradient`.

The list theorems are about the model's wrappers, in which a `prange` loop is a sequential map.  Not proved: how
numba propagates an exception (decided on the running code: single and list requests under JIT).

The ray statements here and in C10/C15 all come from three characterisations: `rayStep_spec` (one
iteration), `rayLoop_spec` (the loop) and `rayTrace_cases` (the end-point test in front of it).
-/
namespace Fteik

variable {α : Type} [Scalar α]

theorem setup2_error_iff (big : α) (slow : Grid2 α) (nzc nxc : Nat) (dz dx zs xs : α) :
    (∃ su, setup2 big slow nzc nxc dz dx zs xs = .ok su ∧ srcInside2 dz dx nzc nxc zs xs = true) ∨
    (setup2 big slow nzc nxc dz dx zs xs = .error .sourceOutOfBound ∧ srcInside2 dz dx nzc nxc zs xs = false) := by
  unfold setup2
  extract_lets condz condx
  rw [show (condz && condx) = srcInside2 dz dx nzc nxc zs xs from rfl]
  cases srcInside2 dz dx nzc nxc zs xs
  · exact .inr ⟨rfl, rfl⟩
  · exact .inl ⟨_, rfl, rfl⟩

theorem C13_fteik2d_error_iff (big : α) (slow : Grid2 α) (nzc nxc : Nat) (dz dx zs xs : α) (n : Nat)
    (grad : Bool) :
    (∃ o, fteik2d big slow nzc nxc dz dx zs xs n grad = .ok o ∧ srcInside2 dz dx nzc nxc zs xs = true) ∨
    (fteik2d big slow nzc nxc dz dx zs xs n grad = .error .sourceOutOfBound
      ∧ srcInside2 dz dx nzc nxc zs xs = false) := by
  unfold fteik2d prepare2
  rcases setup2_error_iff big slow nzc nxc dz dx zs xs with ⟨su, h1, h2⟩ | ⟨h1, h2⟩ <;> rw [h1]
  · exact .inl ⟨_, rfl, h2⟩
  · exact .inr ⟨rfl, h2⟩

theorem C13_fteik3d_error_iff (big : α) (slow : Grid3 α) (nzc nxc nyc : Nat) (dz dx dy zs xs ys : α)
    (n : Nat) (grad : Bool) :
    (∃ o, fteik3d big slow nzc nxc nyc dz dx dy zs xs ys n grad = .ok o
        ∧ srcInside3 dz dx dy nzc nxc nyc zs xs ys = true) ∨
    (fteik3d big slow nzc nxc nyc dz dx dy zs xs ys n grad = .error .sourceOutOfBound
      ∧ srcInside3 dz dx dy nzc nxc nyc zs xs ys = false) := by
  unfold fteik3d prepare3
  extract_lets condz condx condy
  rw [show (condz && condx && condy) = srcInside3 dz dx dy nzc nxc nyc zs xs ys from rfl]
  cases srcInside3 dz dx dy nzc nxc nyc zs xs ys
  · exact .inr ⟨rfl, rfl⟩
  · exact .inl ⟨_, rfl, rfl⟩

theorem prevalidated_eq_mapM {β γ : Type} (f : β → Except Err γ) (ok : β → Bool) (e : Err)
    (h : ∀ x, (∃ y, f x = .ok y ∧ ok x = true) ∨ (f x = .error e ∧ ok x = false)) (l : List β) :
    (if l.all ok then l.mapM f else .error e) = l.mapM f := by
  induction l with
  | nil => rfl
  | cons a t ih =>
    rw [List.mapM_cons, List.all_cons]
    rcases h a with ⟨y, hy, ha⟩ | ⟨hy, ha⟩ <;> rw [hy, ha]
    · rw [Bool.true_and, ← ih]
      split <;> rfl
    · rfl

theorem C13_solve_list_eq_mapM (big : α) (slow : Grid2 α) (nzc nxc : Nat) (dz dx : α)
    (srcs : List (α × α)) (n : Nat) (grad : Bool) :
    fteik2dVectorized big slow nzc nxc dz dx srcs n grad
      = srcs.mapM fun s => fteik2d big slow nzc nxc dz dx s.1 s.2 n grad :=
  prevalidated_eq_mapM (fun s : α × α => fteik2d big slow nzc nxc dz dx s.1 s.2 n grad)
    (fun s => srcInside2 dz dx nzc nxc s.1 s.2) _
    (fun s => C13_fteik2d_error_iff big slow nzc nxc dz dx s.1 s.2 n grad) srcs

theorem C13_solve_list_eq_mapM_3d (big : α) (slow : Grid3 α) (nzc nxc nyc : Nat) (dz dx dy : α)
    (srcs : List (α × α × α)) (n : Nat) (grad : Bool) :
    fteik3dVectorized big slow nzc nxc nyc dz dx dy srcs n grad
      = srcs.mapM fun s => fteik3d big slow nzc nxc nyc dz dx dy s.1 s.2.1 s.2.2 n grad :=
  prevalidated_eq_mapM (fun s : α × α × α => fteik3d big slow nzc nxc nyc dz dx dy s.1 s.2.1 s.2.2 n grad)
    (fun s => srcInside3 dz dx dy nzc nxc nyc s.1 s.2.1 s.2.2) _
    (fun s => C13_fteik3d_error_iff big slow nzc nxc nyc dz dx dy s.1 s.2.1 s.2.2 n grad) srcs

theorem firstErr_eq_mapM {β γ : Type} (f : β → Except Err γ) (l : List β) :
    firstErr (l.map f) = l.mapM f := by
  induction l with
  | nil => rfl
  | cons a t ih =>
    rw [List.map_cons, List.mapM_cons]
    cases h : f a with
    | error e => rfl
    | ok v =>
      rw [firstErr, ih]
      cases t.mapM f <;> rfl

theorem C13_ray_list_eq_mapM (c : RayCfg α) (ends : List (Array α)) (fuel : Nat) :
    rayVectorized c ends fuel = ends.mapM fun p => rayPolyline (rayTrace c p fuel) :=
  firstErr_eq_mapM _ _

/-- One loop iteration and the vertex buffer.  The second alternative of `.cont` is the branch `fac ≥ 1` of
`honor_grid` (the step reaches no cell face): the only way to continue without storing. -/
def StepSpec (c : RayCfg α) (s : RaySt α) : StepRes α → Prop
  | .err e => e = .maxSteps ∧ c.maxStep ≤ s.verts.size
  | .brk s' => s.verts.size < c.maxStep ∧ (s'.verts = s.verts ∨ s'.verts = s.verts.push s'.pcur)
  | .cont s' => s.verts.size < c.maxStep ∧
      (s'.verts = s.verts.push s'.pcur ∨ c.honor = true ∧ s'.verts = s.verts)

theorem rayStep_spec (c : RayCfg α) (s : RaySt α) : StepSpec c s (rayStep c s) := by
  unfold rayStep
  -- the `let`s become local definitions: zeta-reducing them instead makes the term huge
  extract_lets g gn gni delta fac p p1 p2 cb s1 p3 p4
  -- one line per `if` of the body, in its order: the outcome of the branch that ends there
  refine iteInduction (fun h => ⟨rfl, h⟩) fun h => ?_
  have h1 := Nat.lt_of_not_le h
  refine iteInduction (fun _ => ⟨h1, .inl rfl⟩) fun _ => ?_
  refine iteInduction (fun hh => ?_) fun _ => ⟨h1, .inl rfl⟩
  refine iteInduction (fun _ => ?_) fun _ => ⟨h1, .inr ⟨hh, rfl⟩⟩
  exact iteInduction (fun _ => ⟨h1, .inr rfl⟩) fun _ => ⟨h1, .inl rfl⟩

theorem rayStep_verts (c : RayCfg α) (s s' : RaySt α)
    (h : rayStep c s = .cont s' ∨ rayStep c s = .brk s') :
    s'.verts = s.verts ∨ ∃ p, s'.verts = s.verts.push p := by
  rcases h with h | h
  · exact (h ▸ rayStep_spec c s).2.elim (fun e => .inr ⟨_, e⟩) fun e => .inl e.2
  · exact (h ▸ rayStep_spec c s).2.imp id fun e => ⟨_, e⟩

theorem rayStep_free_cont (c : RayCfg α) (s s' : RaySt α) (hh : c.honor = false) (h : rayStep c s = .cont s') :
    s'.verts.size = s.verts.size + 1 ∧ s.verts.size < c.maxStep := by
  obtain ⟨h1, e | ⟨h2, _⟩⟩ := h ▸ rayStep_spec c s
  · exact ⟨by rw [e, Array.size_push], h1⟩
  · cases hh.symm.trans h2

theorem rayStep_prefix {c : RayCfg α} {s s' : RaySt α} (h : rayStep c s = .cont s' ∨ rayStep c s = .brk s') :
    s.verts.toList <+: s'.verts.toList := by
  rcases rayStep_verts c s s' h with e | ⟨_, e⟩ <;> simp [e]

/-- What the loop started with the stored vertices `vs` can return.  The clause on `.fuel`: in free-step mode
every iteration stores a vertex, so the fuel can run out only if it did not exceed the number of free rows. -/
def LoopSpec (c : RayCfg α) (fuel : Nat) (vs : Array (Array α)) : RayRes α → Prop
  | .ok v => ∃ w : Array (Array α), v = w.push c.src ∧ w.size < c.maxStep ∧ vs.toList <+: w.toList
  | .err e => e = .maxSteps ∨ e = .fuel ∧ (c.honor = false → fuel ≤ c.maxStep - vs.size)

omit [Scalar α] in
theorem rayFinish_spec (c : RayCfg α) (fuel : Nat) {vs : Array (Array α)} {s : RaySt α}
    (hp : vs.toList <+: s.verts.toList) : LoopSpec c fuel vs (rayFinish c s) := by
  unfold rayFinish
  split
  · exact .inl rfl
  · exact ⟨_, rfl, by omega, hp⟩

theorem LoopSpec.step {c : RayCfg α} {n : Nat} {s s' : RaySt α} (h : rayStep c s = .cont s') :
    ∀ {r : RayRes α}, LoopSpec c n s'.verts r → LoopSpec c (n + 1) s.verts r
  | .ok _, ⟨w, e, hw, hp⟩ => ⟨w, e, hw, (rayStep_prefix (.inl h)).trans hp⟩
  -- a free step has stored a vertex: one more unit of fuel against one free row less
  | .err _, hr => hr.imp id fun ⟨e1, e2⟩ =>
      ⟨e1, fun hh => by have := e2 hh; have := rayStep_free_cont c s s' hh h; omega⟩

theorem rayLoop_spec (c : RayCfg α) (fuel : Nat) (s : RaySt α) : LoopSpec c fuel s.verts (rayLoop c fuel s) := by
  fun_induction rayLoop c fuel s with
  | case1 s => exact .inr ⟨rfl, fun _ => Nat.zero_le _⟩
  | case2 n s _ s' heq ih => exact ih.step heq
  | case3 n s _ s' heq => exact rayFinish_spec c _ (rayStep_prefix (.inr heq))
  | case4 n s _ e heq => exact .inl (heq ▸ rayStep_spec c s).1
  | case5 n s _ => exact rayFinish_spec c _ (List.prefix_refl _)

theorem rayLoop_error_classes (c : RayCfg α) (fuel : Nat) (s : RaySt α) (e : Err)
    (h : rayLoop c fuel s = .err e) : e = .maxSteps ∨ e = .fuel :=
  (h ▸ rayLoop_spec c fuel s : LoopSpec c fuel s.verts (.err e)).imp id And.left

theorem rayTrace_cases (c : RayCfg α) (p : Array α) (fuel : Nat) :
    ((List.range p.size).all fun a => inside (c.axes.getD a #[]) (get1 p a)) = false
      ∧ rayTrace c p fuel = .err .endPointOutOfBound
    ∨ ((List.range p.size).all fun a => inside (c.axes.getD a #[]) (get1 p a)) = true
      ∧ LoopSpec c fuel #[p] (rayTrace c p fuel) := by
  unfold rayTrace
  extract_lets ins cb s0
  cases h : ins
  · exact .inl ⟨h, rfl⟩
  · exact .inr ⟨h, rayLoop_spec c fuel s0⟩

theorem C13_ray_error_classes (c : RayCfg α) (p : Array α) (fuel : Nat) (e : Err)
    (h : rayTrace c p fuel = .err e) :
    (e = .endPointOutOfBound ∧ ((List.range p.size).all fun a => inside (c.axes.getD a #[]) (get1 p a)) = false)
    ∨ ((e = .maxSteps ∨ e = .fuel) ∧ ((List.range p.size).all fun a => inside (c.axes.getD a #[]) (get1 p a)) = true) := by
  rcases rayTrace_cases c p fuel with ⟨hin, ht⟩ | ⟨hin, hl⟩
  · cases ht.symm.trans h
    exact .inl ⟨rfl, hin⟩
  · exact .inr ⟨(h ▸ hl : LoopSpec c fuel #[p] (.err e)).imp id And.left, hin⟩

theorem C13_gradient_guard (t : TT2 α) : t.gradient = none → t.gradientGrids = .error .noGradient := by
  intro h; simp [TT2.gradientGrids, h]

theorem C13_solve_without_gradient_has_none (big : α) (e : Eik2 α) (src : α × α) (n : Nat) (t : TT2 α)
    (h : e.solve big src n false = .ok t) : t.gradient = none := by
  unfold Eik2.solve at h
  generalize fteik2d big _ _ _ _ _ _ _ _ _ = r at h
  cases r <;> cases h
  rfl

end Fteik
