import FteikVerif.Props.C07
import FteikVerif.Props.C11
import FteikVerif.Proofs.GenWholeReal
/-!
# Property theorems for the whole `fteik2d` as compiled from the source

`gen_fteik2d_eq` (`Proofs/GenEquivWhole2.lean`) identifies the complete translated solver with the model under the
hypotheses collected in `WholeHyp2`; the headline theorems of C07 and C11 are stated here for `Gen.F2.fteik2d` itself,
the code that was translated on this run, under `WholeHyp2`.  That holds over ℝ for positive spacings
(`wholeHyp2_real`: the two `…_real` theorems have no scalar hypotheses) and never for `Float`: `FarLaw Float` is false
(it quantifies over all integers; `2^60` and `2^60 - 6` are the same double), so the parametric theorems say nothing
about doubles.  `Source_C07_fteik2d_converges` needs `FarLaw` together with well-foundedness of `lt`, which is false
for ℝ: the two hold together at neither scalar instance of the development, and convergence (`Props/C07.lean`, also
at `Float`) stays a theorem about the model.
-/
namespace Fteik
open Scalar

variable {α : Type} [Scalar α]

theorem Except.map_map {ε β γ δ : Type} (f : β → γ) (g : γ → δ) (x : Except ε β) :
    (x.map f).map g = x.map (fun b => g (f b)) := by
  cases x <;> rfl

structure WholeHyp2 (slow : Grid2 α) (dz dx zs xs : α) : Prop where
  far : FarLaw α
  rows : 1 ≤ slow.size
  cols : 1 ≤ (slow.getD 0 #[]).size
  trunc : inModel2 slow dz dx zs xs = true → TruncNonneg2 slow dz dx zs xs

theorem wholeHyp2_real (slow : Grid2 ℝ) (dz dx zs xs : ℝ) (hz : 1 ≤ slow.size) (hx : 1 ≤ (slow.getD 0 #[]).size)
    (hdz : 0 < dz) (hdx : 0 < dx) : WholeHyp2 slow dz dx zs xs :=
  ⟨farLaw_real, hz, hx, truncNonneg2_real slow dz dx zs xs hdz hdx⟩

/-- the translated solver as an instance of "a solver that prepares, or fails, and then iterates" (section `run` of
`Props/C07.lean`): the theorems below are the instances of the ones about the model -/
theorem gen_fteik2d_core {slow : Grid2 α} {dz dx zs xs : α} (H : WholeHyp2 slow dz dx zs xs) (big : α) (n : Nat)
    (grad : Bool) :
    (Gen.F2.fteik2d big slow dz dx zs xs (n : Int) grad).map (fun o => (o.1, o.2.2)) =
      (prepare2 big slow slow.size (slow.getD 0 #[]).size dz dx zs xs grad).map fun pr =>
        (iter (sweepTT pr.par slow) n pr.st.tt, pr.par.vzero) := by
  rw [gen_fteik2d_eq H.far big slow dz dx zs xs n grad H.rows H.cols H.trunc, Except.map_map]
  exact Out2.core_fteik2d big slow _ _ dz dx zs xs n grad

theorem Source_C07_fteik2d_monotone {slow : Grid2 α} {dz dx zs xs : α} (H : WholeHyp2 slow dz dx zs xs) (ht : LtTrans α)
    (big : α) (n : Nat) (grad : Bool) (o o' : Grid2 α × Grid2 (α × α) × α)
    (h1 : Gen.F2.fteik2d big slow dz dx zs xs (n : Int) grad = .ok o)
    (h2 : Gen.F2.fteik2d big slow dz dx zs xs ((n + 1 : Nat) : Int) grad = .ok o') :
    Grid2.NonInc o'.1 o.1 :=
  -- `run` and `π` are given: left to unification they are sought inside the translated solver
  run_monotone (run := fun n : Nat => Gen.F2.fteik2d big slow dz dx zs xs (n : Int) grad) (π := fun o => (o.1, o.2.2))
    (fun n => gen_fteik2d_core H big n grad) Grid2.NonInc (fun pr g => foldl_ttUpdate_nonInc ht pr.par slow _ g) h1 h2

/-- **C07 on the compiled source**: from some sweep count on the traveltimes of the translated `fteik2d` do not
change (usable at neither scalar instance: head of the file). -/
theorem Source_C07_fteik2d_converges {slow : Grid2 α} {dz dx zs xs : α} (H : WholeHyp2 slow dz dx zs xs)
    (hwf : WellFounded (fun a b : α => lt a b = true)) (ht : LtTrans α) (big : α) (grad : Bool) :
    ∃ k : Nat, ∀ (m : Nat) (o o' : Grid2 α × Grid2 (α × α) × α),
      Gen.F2.fteik2d big slow dz dx zs xs (k : Int) grad = .ok o →
      Gen.F2.fteik2d big slow dz dx zs xs ((k + m : Nat) : Int) grad = .ok o' → o'.1 = o.1 :=
  run_converges (run := fun n : Nat => Gen.F2.fteik2d big slow dz dx zs xs (n : Int) grad) (π := fun o => (o.1, o.2.2))
    (fun n => gen_fteik2d_core H big n grad) fun pr => C07_sweeps_reach_fixed_point_2d hwf ht pr.par slow pr.st.tt

/-- **C11 on the compiled source**: traveltimes and `vzero` of the translated `fteik2d` do not depend on the
gradient flag. -/
theorem Source_C11_fteik2d_tt_independent_of_grad {slow : Grid2 α} {dz dx zs xs : α} (H : WholeHyp2 slow dz dx zs xs)
    (big : α) (n : Nat) :
    (Gen.F2.fteik2d big slow dz dx zs xs (n : Int) true).map (fun o => (o.1, o.2.2))
      = (Gen.F2.fteik2d big slow dz dx zs xs (n : Int) false).map (fun o => (o.1, o.2.2)) := by
  rw [gen_fteik2d_core H big n true, gen_fteik2d_core H big n false]
  exact prepare2_grad_indep (fun p tt => (iter (sweepTT p slow) n tt, p.vzero)) ..

theorem Source_C07_fteik2d_monotone_real (big : ℝ) (slow : Grid2 ℝ) (dz dx zs xs : ℝ) (hz : 1 ≤ slow.size)
    (hx : 1 ≤ (slow.getD 0 #[]).size) (hdz : 0 < dz) (hdx : 0 < dx) (n : Nat) (grad : Bool)
    (o o' : Grid2 ℝ × Grid2 (ℝ × ℝ) × ℝ)
    (h1 : Gen.F2.fteik2d big slow dz dx zs xs (n : Int) grad = .ok o)
    (h2 : Gen.F2.fteik2d big slow dz dx zs xs ((n + 1 : Nat) : Int) grad = .ok o') :
    Grid2.NonInc o'.1 o.1 :=
  Source_C07_fteik2d_monotone (wholeHyp2_real slow dz dx zs xs hz hx hdz hdx) ltTrans_real big n grad o o' h1 h2

theorem Source_C11_fteik2d_tt_independent_of_grad_real (big : ℝ) (slow : Grid2 ℝ) (dz dx zs xs : ℝ) (hz : 1 ≤ slow.size)
    (hx : 1 ≤ (slow.getD 0 #[]).size) (hdz : 0 < dz) (hdx : 0 < dx) (n : Nat) :
    (Gen.F2.fteik2d big slow dz dx zs xs (n : Int) true).map (fun o => (o.1, o.2.2))
      = (Gen.F2.fteik2d big slow dz dx zs xs (n : Int) false).map (fun o => (o.1, o.2.2)) :=
  Source_C11_fteik2d_tt_independent_of_grad (wholeHyp2_real slow dz dx zs xs hz hx hdz hdx) big n

end Fteik
