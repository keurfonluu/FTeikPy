import FteikVerif.Proofs.Physics
/-!
# C18 — no axis is privileged

Exact arithmetic (ℝ):

* `C18_tAna_transpose`: the analytic time is invariant under relabelling the two axes.
* `C18_fourPoint_transpose`, `C18_planeWave_fourPoint_transpose`: the 4-point formula (`fourPoint` of
  `Proofs/Physics.lean`) is symmetric under exchanging (spacing, neighbour) of the two axes, and so is the model's
  plane-wave operator `planeWave2` whenever its 4-point guard holds.
* `C18_oneD_transpose`: the X copy of the edge slowness of the 1-D operator on the transposed model is the Z copy
  on the original.
* `C18_interp2d_weights_symmetric`: an identity between two orderings of a four-term weighted sum over free reals
  (the shape of `C14_interp2d_weights`); it mentions no definition of the model.

No theorem puts these together into a statement about the local update (`nodeUpdate2`) or the perturbation operator
under axis relabelling; all of them are 2-D.

Not proved, because false: the two 3-point operators are tried in a fixed order (`te` first), so where both are
admissible the update is *not* transposition-invariant; and the sweep order itself is not symmetric,
so the computed fields agree only within the discretisation tolerance (oracle), to rounding for
homogeneous media with equal spacings and for the interpolators.
-/
namespace Fteik
open Scalar

theorem C18_tAna_transpose (i j : Int) (dz dx zsa xsa s : ℝ) :
    tAna i j dz dx zsa xsa s = tAna j i dx dz xsa zsa s := by
  unfold tAna
  simp only [real_sq, real_sqrt, real_ofInt]
  rw [add_comm]

theorem C18_fourPoint_transpose (a b vref tv te tev : ℝ) :
    fourPoint a b vref tv te tev = fourPoint b a vref te tv tev := by
  unfold fourPoint
  simp only
  rw [add_sub_right_comm tev tv, sub_add_eq_add_sub tev tv, sub_sq_comm (tev - te + tv), mul_comm b a, add_comm b a,
    add_comm ((tev + te - tv) * b)]

theorem C18_oneD_transpose (p p' : Par2 ℝ) (slow slowT : Grid2 ℝ) (hT : ∀ a b, slowT.get 0 a b = slow.get 0 b a)
    (hn : p'.nz = p.nx) (i1 j : Nat) :
    edgeSlowX p' slowT j i1 = edgeSlowZ p slow i1 j := by
  unfold edgeSlowX edgeSlowZ
  simp only [real_zero, hT, hn]

theorem C18_planeWave_fourPoint_transpose (p p' : Par2 ℝ) (vref tv te tev : ℝ)
    (h1 : p'.dz = p.dx) (h2 : p'.dx = p.dz) (h3 : p'.dz2i = p.dx2i) (h4 : p'.dx2i = p.dz2i)
    (hg : (le tv (te + p.dx * vref) && le te (tv + p.dz * vref) && ge te tev && ge tv tev) = true) :
    planeWave2 p' vref te tv tev = planeWave2 p vref tv te tev := by
  simp only [Bool.and_eq_true, and_assoc, real_le, real_ge] at hg
  -- the guard of the transposed call is the same conjunction in another order
  rw [planeWave2_eq_fourPoint p vref tv te tev hg, planeWave2_eq_fourPoint p' vref te tv tev
    (by rw [h1, h2]; exact ⟨hg.2.1, hg.1, hg.2.2.2, hg.2.2.1⟩), h3, h4]
  exact (C18_fourPoint_transpose p.dz2i p.dx2i vref tv te tev).symm

theorem C18_interp2d_weights_symmetric (w0 w1 u0 u1 v00 v10 v01 v11 : ℝ) :
    w0 * u0 * v00 + w1 * u0 * v10 + w0 * u1 * v01 + w1 * u1 * v11
      = u0 * w0 * v00 + u1 * w0 * v01 + u0 * w1 * v10 + u1 * w1 * v11 := by ring

end Fteik
