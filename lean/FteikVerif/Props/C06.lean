import FteikVerif.Proofs.InterpLemmas
import FteikVerif.Model.Api
/-!
# C06 — origin invariance of the whole pipeline

* `C06_solve_origin_congr_2d/3d` (every scalar type — bit-for-bit for doubles): the result of `Eikonal2D/3D.solve`
  (traveltimes, gradient, `vzero`, outcome class) depends on origin and source only through the
  grid-relative source `source - origin`; two problems whose grid-relative sources coincide
  (this *is* "the translated source coordinates are exactly representable": `(p + o) - o = p`)
  give identical grids.
* `C06_result_carries_origin_2d`: the 2-D result record carries the model's origin and spacing and the source it was
  given (no 3-D twin).
* `C06_interp2d_translate` (ℝ): shifting both node axes and the query by a common vector leaves the
  interpolated value of `_interp2d` unchanged.

Not proved: the translation of `_interp3d`, of the apparent-velocity interpolation (`_vinterp2d/3d`) and of the ray
tracers, and the list calls; they are checked by the metamorphic oracle on the running code.
-/
namespace Fteik

section generic
variable {α : Type} [Scalar α]

/-- the part of a 2-D result that must not depend on where the origin is -/
def TT2.core (t : TT2 α) : Grid2 α × Option (Grid2 (α × α)) × α := (t.grid, t.gradient, t.vzero)

theorem C06_solve_origin_congr_2d (big : α) (e1 e2 : Eik2 α) (s1 s2 : α × α) (n : Nat) (g : Bool)
    (hg : e1.grid = e2.grid) (hz : e1.nzc = e2.nzc) (hx : e1.nxc = e2.nxc) (hdz : e1.dz = e2.dz)
    (hdx : e1.dx = e2.dx) (h1 : s1.1 - e1.oz = s2.1 - e2.oz) (h2 : s1.2 - e1.ox = s2.2 - e2.ox) :
    (e1.solve big s1 n g).map TT2.core = (e2.solve big s2 n g).map TT2.core := by
  unfold Eik2.solve
  rw [hg, hz, hx, hdz, hdx, h1, h2]
  -- the same kernel call on both sides; origin and source only go into fields that `core` drops
  generalize fteik2d big _ _ _ _ _ _ _ _ _ = r
  cases r <;> rfl

theorem C06_result_carries_origin_2d (big : α) (e : Eik2 α) (s : α × α) (n : Nat) (g : Bool) (t : TT2 α)
    (h : e.solve big s n g = .ok t) :
    t.oz = e.oz ∧ t.ox = e.ox ∧ t.dz = e.dz ∧ t.dx = e.dx ∧ t.source = s := by
  unfold Eik2.solve at h
  generalize fteik2d big _ _ _ _ _ _ _ _ _ = r at h
  cases r <;> cases h
  exact ⟨rfl, rfl, rfl, rfl, rfl⟩

def TT3.core (t : TT3 α) : Grid3 α × Option (Grid3 (α × α × α)) × α := (t.grid, t.gradient, t.vzero)

theorem C06_solve_origin_congr_3d (big : α) (e1 e2 : Eik3 α) (s1 s2 : α × α × α) (n : Nat) (g : Bool)
    (hg : e1.grid = e2.grid) (hz : e1.nzc = e2.nzc) (hx : e1.nxc = e2.nxc) (hy : e1.nyc = e2.nyc)
    (hdz : e1.dz = e2.dz) (hdx : e1.dx = e2.dx) (hdy : e1.dy = e2.dy)
    (h1 : s1.1 - e1.oz = s2.1 - e2.oz) (h2 : s1.2.1 - e1.ox = s2.2.1 - e2.ox) (h3 : s1.2.2 - e1.oy = s2.2.2 - e2.oy) :
    (e1.solve big s1 n g).map TT3.core = (e2.solve big s2 n g).map TT3.core := by
  unfold Eik3.solve
  rw [hg, hz, hx, hy, hdz, hdx, hdy, h1, h2, h3]
  generalize fteik3d big _ _ _ _ _ _ _ _ _ _ _ _ = r
  cases r <;> rfl

end generic

/-! ### translation of the interpolation (exact arithmetic)

The lookup on a translated axis finds the same cell, with translated abscissae, and only
differences of abscissae enter the interpolant.  This needs the axis to have the `n + 1` nodes the
lookup assumes (so that no read falls outside it) and nothing else: not that it is sorted, nor that
the query is inside (the proofs do not use `hx`, `hin` of `axisCell_translate` and `hx`, `hy` of
`C06_interp2d_translate`). -/

theorem get1_map_add (x : Array ℝ) (t : ℝ) (i : Nat) (h : i < x.size) :
    get1 (x.map (· + t)) i = get1 x i + t := by
  rw [get1_eq_getElem _ (by rwa [Array.size_map]), get1_eq_getElem _ h, Array.getElem_map]

theorem real_le_translate (a b t : ℝ) : Scalar.le (a + t) (b + t) = Scalar.le a b :=
  decide_eq_decide.2 (add_le_add_iff_right t)

theorem searchsortedRight_translate (x : Array ℝ) (q t : ℝ) :
    searchsortedRight (x.map (· + t)) (q + t) = searchsortedRight x q := by
  simp only [searchsortedRight, real_eq, if_true, Array.toList_map, List.takeWhile_map, List.length_map,
    Function.comp_def, real_le_translate]

theorem inside_translate (x : Array ℝ) (q t : ℝ) (h : 0 < x.size) :
    inside (x.map (· + t)) (q + t) = inside x q := by
  have hl : last1 (x.map (· + t)) = last1 x + t := by
    rw [last1, Array.size_map]; exact get1_map_add x t _ (Nat.pred_lt_of_lt h)
  rw [inside, hl, get1_map_add x t 0 h, real_le_translate, real_le_translate]; rfl

theorem axisCell_map_add (x : Array ℝ) (n : Nat) (q t : ℝ) (hn : x.size = n + 1) :
    axisCell (x.map (· + t)) n (q + t)
      = { axisCell x n q with x1 := (axisCell x n q).x1 + t, x2 := (axisCell x n q).x2 + t } := by
  have hk := (ss_spec x q).1
  have hl2 : last2 (x.map (· + t)) = last2 x + t := by
    rw [last2, Array.size_map]; exact get1_map_add x t _ (by omega)
  simp only [axisCell, searchsortedRight_translate, hl2,
    get1_map_add x t _ (show searchsortedRight x q - 1 < x.size by omega), AxisCell.mk.injEq, true_and]
  -- what is left is `x2`: extrapolated on the last node, else node `i1 + 1 ≤ n`
  split
  · rw [real_two]; ring
  · rename_i h
    exact get1_map_add x t _ (by simp at h; omega)

theorem axisCell_translate (x : Array ℝ) (n : Nat) (q t : ℝ) (hx : StrictAxis x) (hn : x.size = n + 1)
    (hin : inside x q = true) :
    (axisCell (x.map (· + t)) n (q + t)).i1 = (axisCell x n q).i1
    ∧ (axisCell (x.map (· + t)) n (q + t)).edge = (axisCell x n q).edge
    ∧ (axisCell (x.map (· + t)) n (q + t)).x1 = (axisCell x n q).x1 + t
    ∧ (axisCell (x.map (· + t)) n (q + t)).x2 = (axisCell x n q).x2 + t := by
  rw [axisCell_map_add x n q t hn]
  exact ⟨rfl, rfl, rfl, rfl⟩

theorem interp2d_translate (x y : Array ℝ) (v : Grid2 ℝ) (xq yq fval t u : ℝ)
    (hsx : x.size = (v.size - 1) + 1) (hsy : y.size = ((v.getD 0 #[]).size - 1) + 1) :
    interp2d (x.map (· + t)) (y.map (· + u)) v (xq + t) (yq + u) fval = interp2d x y v xq yq fval := by
  simp only [interp2d, inside_translate x xq t (hsx ▸ Nat.succ_pos _), inside_translate y yq u (hsy ▸ Nat.succ_pos _),
    axisCell_map_add x _ xq t hsx, axisCell_map_add y _ yq u hsy, add_sub_add_right_eq_sub]

theorem C06_interp2d_translate (x y : Array ℝ) (v : Grid2 ℝ) (xq yq fval t u : ℝ)
    (hx : StrictAxis x) (hy : StrictAxis y)
    (hsx : x.size = (v.size - 1) + 1) (hsy : y.size = ((v.getD 0 #[]).size - 1) + 1) :
    interp2d (x.map (· + t)) (y.map (· + u)) v (xq + t) (yq + u) fval = interp2d x y v xq yq fval :=
  interp2d_translate x y v xq yq fval t u hsx hsy

end Fteik
