import FteikVerif.Generated.Sites
/-!
# C12 — memory safety of every compiled kernel

The theorems of this property are *generated*: `Generated/Sites.lean` (namespace
`Fteik.Generated.Sites`) is rewritten from /repo's AST on every run by `harness/sites.py` and
contains one obligation per integer subscript and call context of every kernel:
`0 ≤ index < extent` under the facts valid at that program point, for symbolic (unbounded)
shapes, each index an instance of a lemma of `Proofs/IndexLemmas.lean` (a closed one goes by `decide`, what no
lemma matches is left to `lia`).
This file only anchors the module in the library.
-/
