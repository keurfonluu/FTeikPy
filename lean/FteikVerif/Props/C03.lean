import FteikVerif.Props.C13
import FteikVerif.Props.C06
/-!
# C03 — solver is total and sane on its whole documented input domain

This property is about floating-point neighbourhoods of grid lines, which no ∀-theorem over ℝ can
describe.  What is proved, for the 2-D solver only (ℝ, the exact-arithmetic reading of the `eps` logic of `fteik2d`):

* `C03_classify_flags`: `classifySource` returns flag 1, 2 or 3.  Nothing about the coordinates: that a coordinate
  farther than `eps` from every grid line is left unchanged is stated only for the case of the next theorem.
* `C03_on_line_source_snaps`: the Z coordinate exactly on a grid line (`zsa = zsi`), the X coordinate farther than
  `1e-15` from both lines of cell `xsi`: flag 2, the Z coordinate is rounded to itself and the X coordinate left alone.
  (In `fteik2d` the sub-cell distance `dzu` recomputed from it is then exactly 0 and the block under `if dzu > 0` is
  skipped; that consequence is not a theorem, nor is the case with X and Z exchanged.)
* `C03_far_boundary_source_on_line`: an identity between reals that mentions nothing of the model but the scalar
  operations: for `zsa = nz`, `zsi = nz − 1`, `|zsa − zsi| = 1` and `1 − |zsa − zsi| > 0` is false.  These are `dzu`
  and the test on `dzd` for a source on the far boundary (`zsa ≥ nz` is clamped to `nz`, cell index `nz − 1`), where
  the guard `if dzd > 0` (fix fba37a5) keeps `fteik2d` from dividing by `dzd`; no theorem applies it to `setup2` or
  `initOffGrid`.
* `C03_vzero_is_source_cell` (every scalar type): the `vzero` of `setup2` is the slowness of cell
  `min(int(zsa), nz−1), min(int(xsa), nx−1)`, `zsa`, `xsa` the grid coordinates after the clamp onto the far boundary.
* domain check and result record: `C13_fteik2d_error_iff`, `C06_result_carries_origin_2d`.

Not proved: finiteness / non-negativity / upper bound of all times for off-grid sources (the
row/column initialisation assigns `delta(...)` without a causality test; the open finding
C03-near-line-cancellation shows it fails in floating point within (1e-15, 1e-8) cells of a line).
-/
namespace Fteik
open Scalar

theorem C03_classify_flags (zsa xsa : ℝ) (zsi xsi : Int) :
    (classifySource zsa xsa zsi xsi).iflag = 1 ∨ (classifySource zsa xsa zsi xsi).iflag = 2
      ∨ (classifySource zsa xsa zsi xsi).iflag = 3 := by
  unfold classifySource
  simp only
  split
  · exact Or.inl rfl
  · split
    · exact Or.inr (Or.inl rfl)
    · exact Or.inr (Or.inr rfl)

theorem C03_on_line_source_snaps (zsi xsi : Int) (xsa : ℝ)
    (hx1 : (1 : ℝ) / 1000000000000000 < |xsa - (xsi : ℝ)|) (hx2 : (1 : ℝ) / 1000000000000000 < 1 - |xsa - (xsi : ℝ)|) :
    classifySource ((zsi : ℝ)) xsa zsi xsi = ⟨(zsi : ℝ), xsa, 2⟩ := by
  have he : (0 : ℝ) < Scalar.eps15 := by rw [real_eps15]; positivity
  rw [← real_eps15] at hx1 hx2
  have hm := lt_min hx1 hx2
  -- the distance to the nearest grid line is `min 0 1 = 0 < eps` in Z and `> eps` in X (`hm`)
  unfold classifySource
  simp only [real_abs, real_ofInt, sub_self, abs_zero, real_one, sub_zero, real_pymin2, min_eq_left zero_le_one,
    real_rint_int, Bool.and_eq_true, Bool.or_eq_true, real_lt, real_gt, he, hm, hm.not_gt, and_false, or_true,
    if_true, if_false]

theorem C03_far_boundary_source_on_line (nz : Nat) (h : 1 ≤ nz) :
    let zsa : ℝ := (nz : ℝ)
    let zsi : Int := (nz : Int) - 1
    Scalar.abs (zsa - Scalar.ofInt zsi) = 1 ∧ Scalar.gt (Scalar.one - Scalar.abs (zsa - Scalar.ofInt zsi)) (Scalar.zero : ℝ) = false := by
  intro zsa zsi
  have e : zsa - Scalar.ofInt zsi = 1 := by
    simp only [zsa, zsi, real_ofInt]; push_cast; ring
  rw [e]
  simp [Scalar.gt, Scalar.lt]

section generic
variable {α : Type} [Scalar α]

theorem C03_vzero_is_source_cell (big : α) (slow : Grid2 α) (nzc nxc : Nat) (dz dx zs xs : α) (su : Setup2 α)
    (h : setup2 big slow nzc nxc dz dx zs xs = .ok su) :
    su.par.vzero = slow.get zero su.par.zsi.toNat su.par.xsi.toNat
    ∧ su.par.zsi = min (trunc (if ge (zs / dz) (ofInt nzc) then ofInt nzc else zs / dz)) (Int.ofNat nzc - 1)
    ∧ su.par.xsi = min (trunc (if ge (xs / dx) (ofInt nxc) then ofInt nxc else xs / dx)) (Int.ofNat nxc - 1) := by
  unfold setup2 at h
  simp only at h
  split at h
  · cases h
  · simp only [Except.ok.injEq] at h
    subst h
    exact ⟨rfl, rfl, rfl⟩

end generic
end Fteik
