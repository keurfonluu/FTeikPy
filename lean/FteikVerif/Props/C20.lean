import FteikVerif.Model.Mesh
/-!
# C20 — mesh export is geometrically faithful

Index arithmetic, for **all** shapes (no bound), on the numbering of points and cells used by the model of `_io.py`:

* node ↦ number ↦ node is the identity for cells and for points, 2-D and 3-D (`C20_cellOf2_cellNo2`,
  `C20_cellOf3_cellNo3`, `C20_pointNode2_pointNo2`, `C20_pointNode3_pointNo3`): the numbering is injective on
  nodes / cells (`C20_pointNo2_injective` spells it out for 2-D points), which is what the export needs.  The other
  direction, number ↦ node ↦ number, is proved for 2-D points only (`C20_pointNo2_pointNode2`);
* node data and cell data are attached under the same numbers (`C20_pointData2/3`, `C20_cells2/3`), and every cell's
  vertex numbers are exactly the numbers of the corners of that model cell (`C20_cells2/3`);
* `C20_rayCells`, `C20_rayCells_length`: the `len - 1` line cells of a ray each connect two consecutive vertices of it.

No theorem is about `meshPoint2/3`, `meshGrad2/3`, `rayPoint2/3` (coordinates `(X, Y, -Z)`, reordering and sign flip
of vector data) or `rayOffsets`: these definitions of `Model/Mesh.lean` are only compared with the running code.  The
tie to the code is the correspondence check (the running `grid_to_meshio` / `ray_to_meshio` against these index maps
through a stand-in `meshio.Mesh`).
-/
namespace Fteik

/-- the one arithmetic fact behind every round trip -/
theorem divMod_mul_add {n r : Nat} (q : Nat) (h : r < n) : (q * n + r) / n = q ∧ (q * n + r) % n = r :=
  (Nat.div_mod_unique (by omega)).2 ⟨by rw [Nat.mul_comm, Nat.add_comm], h⟩

/-! Points are numbered like the cells of a grid with one more cell per axis: `pointNo2 nx`,
`pointNode2 nx`, `pointData2 g d nx` *are* `cellNo2 (nx + 1)`, `cellOf2 (nx + 1)`,
`cellData2 g d (nx + 1)` (likewise in 3-D), so every statement about points is the one about
cells at `nx + 1`. -/

theorem C20_cellOf2_cellNo2 (nx ix iz : Nat) (h : ix < nx) : cellOf2 nx (cellNo2 nx ix iz) = (ix, iz) := by
  obtain ⟨hd, hm⟩ := divMod_mul_add iz h
  rw [cellOf2, cellNo2, Nat.add_comm, hd, hm]

theorem C20_cells2 {β : Type} (g : Grid2 β) (d : β) (nx ix iz : Nat) (h : ix < nx) :
    cellVerts2 nx (cellNo2 nx ix iz)
      = [pointNo2 nx ix iz, pointNo2 nx (ix + 1) iz, pointNo2 nx (ix + 1) (iz + 1), pointNo2 nx ix (iz + 1)]
    ∧ cellData2 g d nx (cellNo2 nx ix iz) = g.get d iz ix
    ∧ ravelC2 nx iz ix = cellNo2 nx ix iz := by
  have hc := C20_cellOf2_cellNo2 nx ix iz h
  refine ⟨by rw [cellVerts2, hc], ?_, Nat.add_comm _ _⟩
  show g.get d (cellOf2 nx _).2 (cellOf2 nx _).1 = _
  rw [hc]

theorem C20_pointNode2_pointNo2 (nx ix iz : Nat) (h : ix ≤ nx) : pointNode2 nx (pointNo2 nx ix iz) = (ix, iz) :=
  C20_cellOf2_cellNo2 (nx + 1) ix iz (by omega)

theorem C20_pointNo2_pointNode2 (nx k : Nat) : pointNo2 nx (pointNode2 nx k).1 (pointNode2 nx k).2 = k := by
  unfold pointNode2 pointNo2
  rw [Nat.mul_comm]; exact Nat.mod_add_div k (nx + 1)

theorem C20_pointData2 {β : Type} (g : Grid2 β) (d : β) (nx ix iz : Nat) (h : ix ≤ nx) :
    pointData2 g d nx (pointNo2 nx ix iz) = g.get d iz ix :=
  (C20_cells2 g d (nx + 1) ix iz (by omega)).2.1

theorem C20_ravelC2_eq_pointNo2 (nx ix iz : Nat) : ravelC2 (nx + 1) iz ix = pointNo2 nx ix iz :=
  Nat.add_comm _ _

theorem C20_pointNo2_injective (nx ix iz ix' iz' : Nat) (h : ix ≤ nx) (h' : ix' ≤ nx)
    (he : pointNo2 nx ix iz = pointNo2 nx ix' iz') : ix = ix' ∧ iz = iz' := by
  have := congrArg (pointNode2 nx) he
  rw [C20_pointNode2_pointNo2 nx ix iz h, C20_pointNode2_pointNo2 nx ix' iz' h'] at this
  exact Prod.mk.inj this

theorem C20_cellOf3_cellNo3 (ny nz ix iy iz : Nat) (hy : iy < ny) (hz : iz < nz) :
    cellOf3 ny nz (cellNo3 ny nz ix iy iz) = (ix, iy, iz) := by
  obtain ⟨hd, hm⟩ := divMod_mul_add (ix * ny + iy) hz
  obtain ⟨hd', hm'⟩ := divMod_mul_add ix hy
  rw [cellOf3, cellNo3, Nat.mul_comm ny nz, ← Nat.div_div_eq_div_mul, hd, hm, hd', hm']

theorem C20_cells3 {β : Type} (g : Grid3 β) (d : β) (ny nz ix iy iz : Nat) (hy : iy < ny) (hz : iz < nz) :
    cellVerts3 ny nz (cellNo3 ny nz ix iy iz)
      = [pointNo3 ny nz ix iy iz, pointNo3 ny nz (ix + 1) iy iz, pointNo3 ny nz (ix + 1) (iy + 1) iz,
         pointNo3 ny nz ix (iy + 1) iz, pointNo3 ny nz ix iy (iz + 1), pointNo3 ny nz (ix + 1) iy (iz + 1),
         pointNo3 ny nz (ix + 1) (iy + 1) (iz + 1), pointNo3 ny nz ix (iy + 1) (iz + 1)]
    ∧ cellData3 g d ny nz (cellNo3 ny nz ix iy iz) = g.get d iz ix iy := by
  have hc := C20_cellOf3_cellNo3 ny nz ix iy iz hy hz
  exact ⟨by rw [cellVerts3, hc], by rw [cellData3, hc]⟩

theorem C20_pointNode3_pointNo3 (ny nz ix iy iz : Nat) (hy : iy ≤ ny) (hz : iz ≤ nz) :
    pointNode3 ny nz (pointNo3 ny nz ix iy iz) = (ix, iy, iz) :=
  C20_cellOf3_cellNo3 (ny + 1) (nz + 1) ix iy iz (by omega) (by omega)

theorem C20_pointData3 {β : Type} (g : Grid3 β) (d : β) (ny nz ix iy iz : Nat) (hy : iy ≤ ny) (hz : iz ≤ nz) :
    pointData3 g d ny nz (pointNo3 ny nz ix iy iz) = g.get d iz ix iy :=
  (C20_cells3 g d (ny + 1) (nz + 1) ix iy iz (by omega) (by omega)).2

theorem C20_rayCells (off len : Nat) (c : Nat × Nat) (h : c ∈ rayCells off len) :
    c.2 = c.1 + 1 ∧ off ≤ c.1 ∧ c.2 < off + len := by
  unfold rayCells at h
  simp only [List.mem_map, List.mem_range] at h
  obtain ⟨i, hi, rfl⟩ := h
  exact ⟨rfl, by omega, by omega⟩

theorem C20_rayCells_length (off len : Nat) : (rayCells off len).length = len - 1 := by
  simp [rayCells]

/-- non-vacuity: a 2×3-cell example -/
example : cellVerts2 2 (cellNo2 2 1 2) = [7, 8, 11, 10] := by decide

end Fteik
