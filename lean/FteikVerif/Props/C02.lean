import FteikVerif.Props.C04
/-!
# C02 — heterogeneous media: agreement with exact first-arrival solutions

What is proved is the *registration* of velocity cells in the 2-D `sweep` (nothing here about `_fteik3d.py`); the
first-order error bound against Fermat / closed-form solutions and its decrease under refinement are convergence
statements about the composed scheme and are checked by the oracle only.

* `C02_candidates_registration`: the three candidates of a node update written out with the cells they read: the 1-D
  candidates are `neighbour + d × edgeSlowZ/X`, the 2-D operator is fed with the slowness of cell
  `(i − sgnvz, j − sgnvx)`.
* `C02_edge_slowness_Z/X`: `edgeSlowZ p slow i₁ j` is the minimum of the slownesses of the cells `(i₁, j−1)` and
  `(i₁, j)` adjoining the edge (`j − 1` truncated at 0, `j` clamped to the last cell column); in the candidate `i₁` is
  the cell row between the two nodes — head waves travel in the faster medium.
* `C02_upwind_cell`: that cell for the four quadrants: between nodes `i−1..i`, `j−1..j` for SE, etc.  No hypothesis
  `1 ≤ i, j`: `i − 1` is the truncated subtraction of `nb`.
* `C02_layer_edge_time`: at a fixed point of `sweepTT` the time increases downwards along one vertical grid edge by at
  most `dz ×` that edge slowness (the first half of `C04_edge_bound_Z`, with its hypotheses; `LtNegTrans` fails for
  `Float`).  The cumulative-sum bound along the grid line of a layer stack is the sum of these over the edges, which
  is not a theorem here, and neither is the opposite inequality.
-/
namespace Fteik
open Scalar

variable {α : Type} [Scalar α]

theorem C02_edge_slowness_Z (p : Par2 α) (slow : Grid2 α) (i1 j : Nat) :
    edgeSlowZ p slow i1 j = pymin2 (slow.get zero i1 (j - 1)) (slow.get zero i1 (Nat.min j (p.nx - 2))) := by
  unfold edgeSlowZ; rw [show Nat.max (j - 1) 0 = j - 1 from Nat.max_zero _]

theorem C02_edge_slowness_X (p : Par2 α) (slow : Grid2 α) (i j1 : Nat) :
    edgeSlowX p slow i j1 = pymin2 (slow.get zero (i - 1) j1) (slow.get zero (Nat.min i (p.nz - 2)) j1) := by
  unfold edgeSlowX; rw [show Nat.max (i - 1) 0 = i - 1 from Nat.max_zero _]

theorem C02_candidates_registration (p : Par2 α) (slow tt : Grid2 α) (i j : Nat) (d : Dir2) :
    (candidates2 p slow tt i j d).1 = tt.get zero (nb i d.sgntz) j + p.dz * edgeSlowZ p slow (nb i d.sgnvz) j
    ∧ (candidates2 p slow tt i j d).2.1 = tt.get zero i (nb j d.sgntx) + p.dx * edgeSlowX p slow i (nb j d.sgnvx)
    ∧ (candidates2 p slow tt i j d).2.2 =
        (if farFromSource p i j then
          planeWave2 p (slow.get zero (nb i d.sgnvz) (nb j d.sgnvx)) (tt.get zero (nb i d.sgntz) j)
            (tt.get zero i (nb j d.sgntx)) (tt.get zero (nb i d.sgntz) (nb j d.sgntx))
         else
          spherical2 p (slow.get zero (nb i d.sgnvz) (nb j d.sgnvx)) (tt.get zero (nb i d.sgntz) j)
            (tt.get zero i (nb j d.sgntx)) (tt.get zero (nb i d.sgntz) (nb j d.sgntx)) i j d) :=
  ⟨rfl, rfl, rfl⟩

theorem C02_upwind_cell (i j : Nat) :
    (nb i dirSE.sgnvz, nb j dirSE.sgnvx) = (i - 1, j - 1) ∧ (nb i dirNE.sgnvz, nb j dirNE.sgnvx) = (i, j - 1)
    ∧ (nb i dirSW.sgnvz, nb j dirSW.sgnvx) = (i - 1, j) ∧ (nb i dirNW.sgnvz, nb j dirNW.sgnvx) = (i, j) := by
  show (nb i 1, nb j 1) = _ ∧ (nb i 0, nb j 1) = _ ∧ (nb i 1, nb j 0) = _ ∧ (nb i 0, nb j 0) = _
  simp only [nb_one, nb_zero, and_self]

theorem C02_layer_edge_time (hi : LtIrrefl α) (ht : LtTrans α) (hn : LtNegTrans α)
    (p : Par2 α) (slow : Grid2 α) (tt : Grid2 α) (hrect : Grid2.Rect tt p.nz p.nx) (hnx : 2 ≤ p.nx)
    (hfix : Grid2.Same (sweepTT p slow tt) tt) (i j : Nat) (hiz : i + 1 < p.nz) (hj : j < p.nx) :
    lt (tt.get zero i j + p.dz * edgeSlowZ p slow i j) (tt.get zero (i + 1) j) = false :=
  (C04_edge_bound_Z hi ht hn p slow tt hrect hnx hfix i j hiz hj).1

end Fteik
