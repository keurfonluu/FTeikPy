import FteikVerif.Proofs.Sweep
import FteikVerif.Proofs.RealScalar
import FteikVerif.Proofs.Stabilise
import FteikVerif.Proofs.FloatOrder
/-!
# C07 — more sweeps never increase a time; sweeping converges

All theorems are parametric in the scalar type (`∀ α [Scalar α]`), hence hold of the IEEE-double
instantiation that the driver executes: "non-increasing, bit-for-bit".  Monotonicity uses transitivity of `<`
(`LtTrans α`), convergence also its well-foundedness: explicit hypotheses, both proved for `Float`
(`Proofs/FloatOrder.lean`), so the `…_float` theorems have none.

* `C07_nsweep_only_iterates_2d/3d`: `nsweep` enters `fteik2d/3d` only as the iteration count of `sweep2d/3d` over a
  state prepared independently of it.
* `C07_status_independent_2d`: whether `fteik2d` raises does not depend on `nsweep` (2-D only).
* `C07_solve2d/3d_monotone`: one more sweep never raises the traveltime of any node (`NonInc`: equal or `<`).
* `C07_fixed_forever_2d/3d`: once a sweep changes nothing, no further sweep changes anything.  This is true of the
  iterates of any function; nothing about `sweep2d/3d` is used.
* `C07_sweeps_reach_fixed_point_2d/3d`: some iterate of the sweep on traveltime grids (`sweepTT`, `sweepTT3`) is a
  fixed point of it; `C07_solve2d/3d_converges`: hence there is a sweep count `k` such that every `nsweep ≥ k` returns
  the same traveltime grid as `nsweep = k`, bit for bit.

Tie to the code: (B) `harness/extract.py` checks on every run that the only store into `tt` in
`sweep` is `tt[idx] = min(t0, …)` with `t0 = tt[idx]`, that `sweepNd` stores into `tt` only
through `sweep`, and that `nsweep` occurs only in `for _ in range(nsweep)`; (A) the model's
`fteikNd` is compared with the running code for `nsweep = 1 … K`.

Not proved: "single digits in practice" (a measurement); no bound on `k` is stated.
-/
namespace Fteik
open Scalar

variable {α : Type} [Scalar α]

theorem C07_nsweep_only_iterates_2d (big : α) (slow : Grid2 α) (nzc nxc : Nat) (dz dx zs xs : α)
    (n : Nat) (grad : Bool) :
    fteik2d big slow nzc nxc dz dx zs xs n grad =
      (prepare2 big slow nzc nxc dz dx zs xs grad).map fun pr =>
        let st := iter (sweep2d pr.par slow grad) n pr.st
        { tt := st.tt,
          grad := if grad then assembleGrad2 pr.par st.tt st.sgn pr.gradv else pr.gradv,
          vzero := pr.par.vzero } := by
  unfold fteik2d
  cases prepare2 big slow nzc nxc dz dx zs xs grad <;> rfl

/-! ### a solver that prepares (or fails) and then iterates

`run n` is `fteik2d`/`fteik3d` with `nsweep = n`; `π` projects its result on (traveltimes, `vzero`);
`hcore` says that these are the prepared traveltimes under `n` applications of an operator `F pr`.
The theorems about the solvers below use this equation instead of their definitions. -/
section run
variable {ε P O G V : Type} {run : Nat → Except ε O} {π : O → G × V} {prep : Except ε P}
  {F : P → G → G} {g0 : P → G} {v : P → V}
  (hcore : ∀ n, (run n).map π = prep.map fun pr => (iter (F pr) n (g0 pr), v pr))
include hcore

theorem run_ok : (∃ pr, ∀ n o, run n = .ok o → iter (F pr) n (g0 pr) = (π o).1) ∨ ∀ n o, run n ≠ .ok o := by
  cases prep with
  | error _ => exact .inr fun n o h => by have e := hcore n; rw [h] at e; cases e
  | ok pr =>
    exact .inl ⟨pr, fun n o h => by have e := hcore n; rw [h] at e; exact congrArg Prod.fst (Except.ok.inj e).symm⟩

theorem run_monotone (R : G → G → Prop) (hR : ∀ pr g, R (F pr g) g) {n : Nat} {o o' : O}
    (h1 : run n = .ok o) (h2 : run (n + 1) = .ok o') : R (π o').1 (π o).1 := by
  rcases run_ok hcore with ⟨pr, h⟩ | h
  · rw [← h _ _ h1, ← h _ _ h2, iter_succ']
    exact hR _ _
  · exact absurd h1 (h _ _)

theorem run_converges (hfix : ∀ pr, ∃ k, F pr (iter (F pr) k (g0 pr)) = iter (F pr) k (g0 pr)) :
    ∃ k, ∀ m o o', run k = .ok o → run (k + m) = .ok o' → (π o').1 = (π o).1 := by
  rcases run_ok hcore with ⟨pr, h⟩ | h
  · obtain ⟨k, hk⟩ := hfix pr
    exact ⟨k, fun m o o' h1 h2 => by rw [← h _ _ h1, ← h _ _ h2, iter_add_fixed _ _ _ hk]⟩
  · exact ⟨0, fun m o o' h1 _ => absurd h1 (h _ _)⟩

end run

/-- projection of a solver outcome on what must not depend on `grad` -/
def Out2.core (o : Except Err (Out2 α)) : Except Err (Grid2 α × α) := o.map fun x => (x.tt, x.vzero)
def Out3.core (o : Except Err (Out3 α)) : Except Err (Grid3 α × α) := o.map fun x => (x.tt, x.vzero)

theorem Out2.core_fteik2d (big : α) (slow : Grid2 α) (nzc nxc : Nat) (dz dx zs xs : α) (n : Nat)
    (grad : Bool) :
    Out2.core (fteik2d big slow nzc nxc dz dx zs xs n grad) =
      (prepare2 big slow nzc nxc dz dx zs xs grad).map fun pr =>
        (iter (sweepTT pr.par slow) n pr.st.tt, pr.par.vzero) := by
  rw [C07_nsweep_only_iterates_2d]
  cases prepare2 big slow nzc nxc dz dx zs xs grad with
  | error e => rfl
  | ok pr => exact congrArg (fun t => Except.ok (t, pr.par.vzero)) (iter_sweep2d_tt ..)

theorem C07_solve2d_monotone (h : LtTrans α) (big : α) (slow : Grid2 α) (nzc nxc : Nat)
    (dz dx zs xs : α) (n : Nat) (grad : Bool) (o o' : Out2 α)
    (h1 : fteik2d big slow nzc nxc dz dx zs xs n grad = .ok o)
    (h2 : fteik2d big slow nzc nxc dz dx zs xs (n + 1) grad = .ok o') :
    Grid2.NonInc o'.tt o.tt :=
  run_monotone (Out2.core_fteik2d big slow nzc nxc dz dx zs xs · grad) Grid2.NonInc
    (fun pr g => foldl_ttUpdate_nonInc h pr.par slow _ g) h1 h2

theorem C07_status_independent_2d (big : α) (slow : Grid2 α) (nzc nxc : Nat) (dz dx zs xs : α)
    (n m : Nat) (grad : Bool) :
    (fteik2d big slow nzc nxc dz dx zs xs n grad).toBool
      = (fteik2d big slow nzc nxc dz dx zs xs m grad).toBool := by
  unfold fteik2d
  cases prepare2 big slow nzc nxc dz dx zs xs grad <;> rfl

theorem C07_fixed_forever_2d (p : Par2 α) (slow : Grid2 α) (grad : Bool) (s : St2 α)
    (hfix : sweep2d p slow grad s = s) (m : Nat) : iter (sweep2d p slow grad) m s = s :=
  iter_fixed _ _ hfix m

theorem C07_nsweep_only_iterates_3d (big : α) (slow : Grid3 α) (nzc nxc nyc : Nat)
    (dz dx dy zs xs ys : α) (n : Nat) (grad : Bool) :
    fteik3d big slow nzc nxc nyc dz dx dy zs xs ys n grad =
      (prepare3 big slow nzc nxc nyc dz dx dy zs xs ys grad).map fun pr =>
        let st := iter (sweep3d pr.par slow grad) n pr.st
        { tt := st.tt,
          grad := if grad then assembleGrad3 pr.par st.tt st.sgn pr.gradv else pr.gradv,
          vzero := pr.vzero } := by
  unfold fteik3d
  cases prepare3 big slow nzc nxc nyc dz dx dy zs xs ys grad <;> rfl

theorem Out3.core_fteik3d (big : α) (slow : Grid3 α) (nzc nxc nyc : Nat) (dz dx dy zs xs ys : α)
    (n : Nat) (grad : Bool) :
    Out3.core (fteik3d big slow nzc nxc nyc dz dx dy zs xs ys n grad) =
      (prepare3 big slow nzc nxc nyc dz dx dy zs xs ys grad).map fun pr =>
        (iter (sweepTT3 pr.par slow) n pr.st.tt, pr.vzero) := by
  rw [C07_nsweep_only_iterates_3d]
  cases prepare3 big slow nzc nxc nyc dz dx dy zs xs ys grad with
  | error e => rfl
  | ok pr => exact congrArg (fun t => Except.ok (t, pr.vzero)) (iter_sweep3d_tt ..)

theorem C07_solve3d_monotone (h : LtTrans α) (big : α) (slow : Grid3 α) (nzc nxc nyc : Nat)
    (dz dx dy zs xs ys : α) (n : Nat) (grad : Bool) (o o' : Out3 α)
    (h1 : fteik3d big slow nzc nxc nyc dz dx dy zs xs ys n grad = .ok o)
    (h2 : fteik3d big slow nzc nxc nyc dz dx dy zs xs ys (n + 1) grad = .ok o') :
    Grid3.NonInc o'.tt o.tt :=
  run_monotone (Out3.core_fteik3d big slow nzc nxc nyc dz dx dy zs xs ys · grad) Grid3.NonInc
    (fun pr g => sweepTT3_nonInc h pr.par slow g) h1 h2

theorem C07_fixed_forever_3d (p : Par3 α) (slow : Grid3 α) (grad : Bool) (s : St3 α)
    (hfix : sweep3d p slow grad s = s) (m : Nat) : iter (sweep3d p slow grad) m s = s :=
  iter_fixed _ _ hfix m

/-- non-vacuity: the order hypothesis holds for the real-number instance -/
example : LtTrans ℝ := ltTrans_real

theorem C07_sweeps_reach_fixed_point_2d (hwf : WellFounded (fun a b : α => lt a b = true)) (ht : LtTrans α)
    (p : Par2 α) (slow : Grid2 α) (tt : Grid2 α) :
    ∃ k, sweepTT p slow (iter (sweepTT p slow) k tt) = iter (sweepTT p slow) k tt :=
  Grid2.stabilises hwf (sweepTT p slow) (foldl_ttUpdate_shape p slow _) (foldl_ttUpdate_nonInc ht p slow _) tt

theorem C07_solve2d_converges (hwf : WellFounded (fun a b : α => lt a b = true)) (ht : LtTrans α)
    (big : α) (slow : Grid2 α) (nzc nxc : Nat) (dz dx zs xs : α) (grad : Bool) :
    ∃ k, ∀ m (o o' : Out2 α),
      fteik2d big slow nzc nxc dz dx zs xs k grad = .ok o →
      fteik2d big slow nzc nxc dz dx zs xs (k + m) grad = .ok o' → o'.tt = o.tt :=
  run_converges (Out2.core_fteik2d big slow nzc nxc dz dx zs xs · grad)
    fun pr => C07_sweeps_reach_fixed_point_2d hwf ht pr.par slow pr.st.tt

theorem C07_solve2d_converges_float (big : Float) (slow : Grid2 Float) (nzc nxc : Nat) (dz dx zs xs : Float)
    (grad : Bool) :
    ∃ k, ∀ m (o o' : Out2 Float),
      fteik2d big slow nzc nxc dz dx zs xs k grad = .ok o →
      fteik2d big slow nzc nxc dz dx zs xs (k + m) grad = .ok o' → o'.tt = o.tt :=
  C07_solve2d_converges ltWf_float ltTrans_float big slow nzc nxc dz dx zs xs grad

theorem C07_solve2d_monotone_float (big : Float) (slow : Grid2 Float) (nzc nxc : Nat)
    (dz dx zs xs : Float) (n : Nat) (grad : Bool) (o o' : Out2 Float)
    (h1 : fteik2d big slow nzc nxc dz dx zs xs n grad = .ok o)
    (h2 : fteik2d big slow nzc nxc dz dx zs xs (n + 1) grad = .ok o') :
    Grid2.NonInc o'.tt o.tt :=
  C07_solve2d_monotone ltTrans_float big slow nzc nxc dz dx zs xs n grad o o' h1 h2

theorem C07_solve3d_monotone_float (big : Float) (slow : Grid3 Float) (nzc nxc nyc : Nat)
    (dz dx dy zs xs ys : Float) (n : Nat) (grad : Bool) (o o' : Out3 Float)
    (h1 : fteik3d big slow nzc nxc nyc dz dx dy zs xs ys n grad = .ok o)
    (h2 : fteik3d big slow nzc nxc nyc dz dx dy zs xs ys (n + 1) grad = .ok o') :
    Grid3.NonInc o'.tt o.tt :=
  C07_solve3d_monotone ltTrans_float big slow nzc nxc nyc dz dx dy zs xs ys n grad o o' h1 h2

theorem C07_sweeps_reach_fixed_point_3d (hwf : WellFounded (fun a b : α => lt a b = true)) (ht : LtTrans α)
    (p : Par3 α) (slow : Grid3 α) (tt : Grid3 α) :
    ∃ k, sweepTT3 p slow (iter (sweepTT3 p slow) k tt) = iter (sweepTT3 p slow) k tt :=
  Grid3.stabilises hwf (sweepTT3 p slow)
    (sweepTT3_sameShape p slow) (sweepTT3_nonInc ht p slow) tt

theorem C07_solve3d_converges (hwf : WellFounded (fun a b : α => lt a b = true)) (ht : LtTrans α)
    (big : α) (slow : Grid3 α) (nzc nxc nyc : Nat) (dz dx dy zs xs ys : α) (grad : Bool) :
    ∃ k, ∀ m (o o' : Out3 α),
      fteik3d big slow nzc nxc nyc dz dx dy zs xs ys k grad = .ok o →
      fteik3d big slow nzc nxc nyc dz dx dy zs xs ys (k + m) grad = .ok o' → o'.tt = o.tt :=
  run_converges (Out3.core_fteik3d big slow nzc nxc nyc dz dx dy zs xs ys · grad)
    fun pr => C07_sweeps_reach_fixed_point_3d hwf ht pr.par slow pr.st.tt

theorem C07_solve3d_converges_float (big : Float) (slow : Grid3 Float) (nzc nxc nyc : Nat)
    (dz dx dy zs xs ys : Float) (grad : Bool) :
    ∃ k, ∀ m (o o' : Out3 Float),
      fteik3d big slow nzc nxc nyc dz dx dy zs xs ys k grad = .ok o →
      fteik3d big slow nzc nxc nyc dz dx dy zs xs ys (k + m) grad = .ok o' → o'.tt = o.tt :=
  C07_solve3d_converges ltWf_float ltTrans_float big slow nzc nxc nyc dz dx dy zs xs ys grad

end Fteik
