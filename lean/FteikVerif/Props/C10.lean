import FteikVerif.Props.C13
import FteikVerif.Proofs.RealScalar
/-!
# C10 — free-step rays run from source to receiver inside the grid

Parametric in the scalar type unless marked (ℝ):

* `C10_freeStep_terminates`: without `honor_grid` every loop iteration stores one vertex and the
  budget test stops the loop when `max_step` rows are used, so with fuel above the number of free rows (`max_step + 1`
  always suffices) `rayLoop` never returns `fuel` — the `while` loop terminates for every gradient field.
* `C10_ray_endpoints`: a returned polyline (after `ray[count::-1]`) starts with the source, ends with the requested end
  point (both modes) and has between 2 and `max_step + 1` vertices.  The upper bound is not sharp: that the buffer
  of `max_step` rows is never exceeded is `C15_stored_vertices_bounded`.
* `C10_outcome_classes` (= `C13_ray_error_classes`) classifies a request that failed: `ValueError` (end point out of
  bound) only with the end point outside the hull, `RuntimeError` (budget) or the model's `fuel` only with it inside.
  That an end point outside the hull does fail is the first disjunct of the helper `rayTrace_cases` (`Props/C13`).
* `C10_clamp_in_hull` (ℝ): the expression `pymin2 (pymax2 x lo) hi`, which `clampHull` applies to each coordinate of a
  step, lies in `[lo, hi]`.  The statement is about this scalar expression, not about `clampHull` or `rayTrace`.
* `C10_clamp_nonexpansive`, `C10_unit_step_2d/3d`, `C10_step_length_le_2d/3d` (ℝ, last section), again on the coordinate
  expressions of the kernels, not on `rayStep`: a clamped free step from a point of the hull ends at distance at most
  `stepsize` from it.

Not proved: that every vertex of a returned ray lies in the hull and that consecutive vertices are at most `stepsize`
apart, as theorems about `rayTrace` (the two items above are their scalar cores); the 1.5-cell tube; "never
RuntimeError for homogeneous equal spacing" — these are checked by the oracle on the running code.  Monotone traveltime
along the ray is not proved either.
-/
namespace Fteik

section generic
variable {α : Type} [Scalar α]

theorem C10_freeStep_terminates (c : RayCfg α) (hh : c.honor = false) (fuel : Nat) (s : RaySt α)
    (hf : c.maxStep - s.verts.size < fuel) : rayLoop c fuel s ≠ .err .fuel := by
  intro hc
  rcases hc ▸ rayLoop_spec c fuel s with h | ⟨_, h⟩
  · cases h
  · exact Nat.not_le_of_lt hf (h hh)

theorem rayLoop_ok (c : RayCfg α) (fuel : Nat) (s : RaySt α) (v : Array (Array α))
    (h : rayLoop c fuel s = .ok v) :
    ∃ w : Array (Array α), v = w.push c.src ∧ w.size < c.maxStep ∧ s.verts.size ≤ w.size
      ∧ ∀ i, i < s.verts.size → w[i]? = s.verts[i]? := by
  obtain ⟨w, e, hw, hp⟩ := h ▸ rayLoop_spec c fuel s
  exact ⟨w, e, hw, hp.length_le, fun i hi => Array.getElem?_toList.symm.trans
    ((List.prefix_iff_getElem?.mp hp i hi).trans (Array.getElem?_eq_getElem hi).symm)⟩

theorem C10_ray_endpoints (c : RayCfg α) (p : Array α) (fuel : Nat) (r : Array (Array α))
    (h : rayPolyline (rayTrace c p fuel) = .ok r) :
    r[0]? = some c.src ∧ r[r.size - 1]? = some p ∧ r.size ≤ c.maxStep + 1 ∧ 2 ≤ r.size := by
  rcases rayTrace_cases c p fuel with ⟨_, ht⟩ | ⟨_, hl⟩
  · rw [ht] at h
    cases h
  · cases hr : rayTrace c p fuel <;> rw [hr] at h hl <;> cases h
    obtain ⟨w, rfl, hw, hp⟩ := hl
    -- `w` starts with `p`; reversed, `w.push src` starts with `src` and ends with `w[0]`
    have h1 : 1 ≤ w.size := hp.length_le
    have h0 : w.toList[0]? = some p := List.prefix_iff_getElem?.mp hp 0 Nat.one_pos
    rw [Array.size_reverse, Array.size_push, Array.getElem?_reverse' (j := w.size) (by rw [Array.size_push]; omega),
      Array.getElem?_reverse' (j := 0) (by rw [Array.size_push]; omega), Array.getElem?_push_size,
      Array.getElem?_push_lt h1, ← Array.getElem?_toList.trans (Array.getElem?_eq_getElem h1), h0]
    exact ⟨rfl, rfl, Nat.succ_le_succ hw.le, Nat.succ_le_succ h1⟩

theorem C10_outcome_classes (c : RayCfg α) (p : Array α) (fuel : Nat) (e : Err) (h : rayTrace c p fuel = .err e) :
    (e = .endPointOutOfBound ∧ ((List.range p.size).all fun a => inside (c.axes.getD a #[]) (get1 p a)) = false)
    ∨ ((e = .maxSteps ∨ e = .fuel) ∧ ((List.range p.size).all fun a => inside (c.axes.getD a #[]) (get1 p a)) = true) :=
  C13_ray_error_classes c p fuel e h

end generic

theorem C10_clamp_in_hull (lo hi x : ℝ) (h : lo ≤ hi) : lo ≤ pymin2 (pymax2 x lo) hi ∧ pymin2 (pymax2 x lo) hi ≤ hi := by
  rw [real_pymin2, real_pymax2]
  exact ⟨le_min (le_max_right _ _) h, min_le_right _ _⟩

/-! ### a clamped free step from a point of the hull is at most `stepsize` long (ℝ)

The free step of `rayStep` / `_ray2d`, `_ray3d` written out in coordinates: `p_a - stepsize * g_a * (1/|g|)`,
then `min(max(., lo_a), hi_a)`. -/

/-- `max · lo` and `min · hi` are 1-Lipschitz, and a point of the hull is its own clamp -/
theorem C10_clamp_nonexpansive (lo hi x b : ℝ) (h : lo ≤ hi) (hb1 : lo ≤ b) (hb2 : b ≤ hi) :
    |pymin2 (pymax2 x lo) hi - b| ≤ |x - b| := by
  rw [real_pymin2, real_pymax2]
  calc |min (max x lo) hi - b| = |min (max x lo) hi - min (max b lo) hi| := by
        rw [max_eq_left hb1, min_eq_left hb2]
    _ ≤ |max x lo - max b lo| := abs_inf_sub_inf_le_abs _ _ hi
    _ ≤ |x - b| := abs_sup_sub_sup_le_abs x b lo

/-- the squared step vector `stepsize * g_a * (1/|g|)` sums to `stepsize² * (|g|² * (1/|g|) * (1/|g|))` -/
theorem unit_step_of_sq (S step : ℝ) (hs : 0 ≤ step) (hg : 0 < Real.sqrt S) :
    Real.sqrt (step * step * (S * (1 / Real.sqrt S) * (1 / Real.sqrt S))) = step := by
  have hpos : 0 < S := Real.sqrt_pos.mp hg
  rw [mul_assoc S, one_div, ← mul_inv, Real.mul_self_sqrt hpos.le, mul_inv_cancel₀ hpos.ne', mul_one]
  exact Real.sqrt_mul_self hs

theorem C10_unit_step_2d (g0 g1 step : ℝ) (hs : 0 ≤ step) (hg : 0 < Real.sqrt (g0 * g0 + g1 * g1)) :
    Real.sqrt ((step * g0 * (1 / Real.sqrt (g0 * g0 + g1 * g1))) * (step * g0 * (1 / Real.sqrt (g0 * g0 + g1 * g1)))
      + (step * g1 * (1 / Real.sqrt (g0 * g0 + g1 * g1))) * (step * g1 * (1 / Real.sqrt (g0 * g0 + g1 * g1)))) = step := by
  convert unit_step_of_sq (g0 * g0 + g1 * g1) step hs hg using 2
  ring

theorem C10_unit_step_3d (g0 g1 g2 step : ℝ) (hs : 0 ≤ step) (hg : 0 < Real.sqrt (g0 * g0 + g1 * g1 + g2 * g2)) :
    Real.sqrt ((step * g0 * (1 / Real.sqrt (g0 * g0 + g1 * g1 + g2 * g2))) * (step * g0 * (1 / Real.sqrt (g0 * g0 + g1 * g1 + g2 * g2)))
      + (step * g1 * (1 / Real.sqrt (g0 * g0 + g1 * g1 + g2 * g2))) * (step * g1 * (1 / Real.sqrt (g0 * g0 + g1 * g1 + g2 * g2)))
      + (step * g2 * (1 / Real.sqrt (g0 * g0 + g1 * g1 + g2 * g2))) * (step * g2 * (1 / Real.sqrt (g0 * g0 + g1 * g1 + g2 * g2)))) = step := by
  convert unit_step_of_sq (g0 * g0 + g1 * g1 + g2 * g2) step hs hg using 2
  ring

theorem clamped_step_sq_le (lo hi p d : ℝ) (hp : lo ≤ p ∧ p ≤ hi) :
    (p - pymin2 (pymax2 (p - d) lo) hi) * (p - pymin2 (pymax2 (p - d) lo) hi) ≤ d * d := by
  rw [← abs_le_iff_mul_self_le, abs_sub_comm]
  simpa using C10_clamp_nonexpansive lo hi (p - d) p (hp.1.trans hp.2) hp.1 hp.2

theorem C10_step_length_le_2d (p0 p1 g0 g1 step lo0 hi0 lo1 hi1 : ℝ) (hs : 0 ≤ step)
    (hg : 0 < Real.sqrt (g0 * g0 + g1 * g1)) (hp0 : lo0 ≤ p0 ∧ p0 ≤ hi0) (hp1 : lo1 ≤ p1 ∧ p1 ≤ hi1) :
    Real.sqrt ((p0 - pymin2 (pymax2 (p0 - step * g0 * (1 / Real.sqrt (g0 * g0 + g1 * g1))) lo0) hi0)
        * (p0 - pymin2 (pymax2 (p0 - step * g0 * (1 / Real.sqrt (g0 * g0 + g1 * g1))) lo0) hi0)
      + (p1 - pymin2 (pymax2 (p1 - step * g1 * (1 / Real.sqrt (g0 * g0 + g1 * g1))) lo1) hi1)
        * (p1 - pymin2 (pymax2 (p1 - step * g1 * (1 / Real.sqrt (g0 * g0 + g1 * g1))) lo1) hi1)) ≤ step :=
  (Real.sqrt_le_sqrt (add_le_add (clamped_step_sq_le lo0 hi0 p0 _ hp0) (clamped_step_sq_le lo1 hi1 p1 _ hp1))).trans_eq
    (C10_unit_step_2d g0 g1 step hs hg)

theorem C10_step_length_le_3d (p0 p1 p2 g0 g1 g2 step lo0 hi0 lo1 hi1 lo2 hi2 : ℝ) (hs : 0 ≤ step)
    (hg : 0 < Real.sqrt (g0 * g0 + g1 * g1 + g2 * g2)) (hp0 : lo0 ≤ p0 ∧ p0 ≤ hi0) (hp1 : lo1 ≤ p1 ∧ p1 ≤ hi1)
    (hp2 : lo2 ≤ p2 ∧ p2 ≤ hi2) :
    Real.sqrt ((p0 - pymin2 (pymax2 (p0 - step * g0 * (1 / Real.sqrt (g0 * g0 + g1 * g1 + g2 * g2))) lo0) hi0)
        * (p0 - pymin2 (pymax2 (p0 - step * g0 * (1 / Real.sqrt (g0 * g0 + g1 * g1 + g2 * g2))) lo0) hi0)
      + (p1 - pymin2 (pymax2 (p1 - step * g1 * (1 / Real.sqrt (g0 * g0 + g1 * g1 + g2 * g2))) lo1) hi1)
        * (p1 - pymin2 (pymax2 (p1 - step * g1 * (1 / Real.sqrt (g0 * g0 + g1 * g1 + g2 * g2))) lo1) hi1)
      + (p2 - pymin2 (pymax2 (p2 - step * g2 * (1 / Real.sqrt (g0 * g0 + g1 * g1 + g2 * g2))) lo2) hi2)
        * (p2 - pymin2 (pymax2 (p2 - step * g2 * (1 / Real.sqrt (g0 * g0 + g1 * g1 + g2 * g2))) lo2) hi2)) ≤ step :=
  (Real.sqrt_le_sqrt (add_le_add (add_le_add (clamped_step_sq_le lo0 hi0 p0 _ hp0)
    (clamped_step_sq_le lo1 hi1 p1 _ hp1)) (clamped_step_sq_le lo2 hi2 p2 _ hp2))).trans_eq
    (C10_unit_step_3d g0 g1 g2 step hs hg)

end Fteik
