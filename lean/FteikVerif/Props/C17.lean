import FteikVerif.Model.Api
/-!
# C17 — results depend only on argument values, not on history or representation

The 2-D solver object as a state machine.  State = `Eik2` (velocity grid, spacing, origin); operations (`Op2`) =
`solve`, list `solve`, point evaluation, `resample`, `smooth` - no gradient access, no `raytrace`, no 3-D machine.
SciPy's interpolator and Gaussian filter are parameters (`rs`, `sm`).  Theorems (every scalar type):

* `C17_queries_do_not_change_state`: `solve` and point evaluation return the state unchanged;
* `C17_history_erasure`: after any history the state equals the state after the sub-history of
  `resample` / `smooth` operations alone;
* `C17_output_depends_on_state_and_args`: hence what an operation returns after a history is what it returns after
  those alone — what was *queried* before (other sources, list or single calls, calls that raised) cannot influence
  a later result.

That the Python methods realise these transitions (no method other than `__init__`, `resample`,
`smooth` assigns an attribute, stores through a subscript or updates in place; kernels write none
of their parameters; no module-level mutable state) is re-extracted from the AST each run into Boolean tables
(`Generated/ApiFacts.lean`, `Generated/Effects.lean`); no Lean statement relates these to `apiStep`.  Container type,
dtype, memory layout, aliasing, deep copies and the JIT cache are properties of NumPy/numba objects outside any Lean
model; they are exercised by the check's histories.
-/
namespace Fteik

variable {α : Type} [Scalar α]

inductive Op2 (α : Type) where
  | solve (src : α × α) (nsweep : Nat) (grad : Bool)
  | solveList (srcs : List (α × α)) (nsweep : Nat) (grad : Bool)
  | call (p : α × α) (fval : α)
  | resample (nz nx : Nat)
  | smooth (sigma : α)

inductive Out2Op (α : Type) where
  | tt (r : Except Err (TT2 α))
  | tts (r : Except Err (List (TT2 α)))
  | val (v : α)
  | unit

def Op2.isMutator : Op2 α → Bool
  | .resample .. => true
  | .smooth .. => true
  | _ => false

/-- `rs`/`sm` stand for SciPy's `RegularGridInterpolator` resampling and `gaussian_filter` (given the sigma in
cells) -/
def apiStep (big : α) (rs : Grid2 α → Nat → Nat → Grid2 α) (sm : Grid2 α → α × α → Grid2 α)
    (e : Eik2 α) : Op2 α → Eik2 α × Out2Op α
  | .solve src n g => (e, .tt (e.solve big src n g))
  | .solveList srcs n g => (e, .tts (e.solveList big srcs n g))
  | .call p fv => (e, .val (e.call p fv))
  | .resample nz nx =>
      ({ e with grid := rs e.grid nz nx, nzc := nz, nxc := nx,
                dz := resampleSpacing e.dz e.nzc nz, dx := resampleSpacing e.dx e.nxc nx }, .unit)
  | .smooth s => ({ e with grid := sm e.grid (smoothSigma s e.dz, smoothSigma s e.dx) }, .unit)

def runHistory (big : α) (rs : Grid2 α → Nat → Nat → Grid2 α) (sm : Grid2 α → α × α → Grid2 α)
    (e : Eik2 α) (h : List (Op2 α)) : Eik2 α :=
  h.foldl (fun e op => (apiStep big rs sm e op).1) e

theorem C17_queries_do_not_change_state (big : α) (rs sm) (e : Eik2 α) (op : Op2 α)
    (h : op.isMutator = false) : (apiStep big rs sm e op).1 = e := by
  cases op with
  | resample | smooth => cases h
  | _ => rfl

theorem C17_history_erasure (big : α) (rs sm) (e : Eik2 α) (h : List (Op2 α)) :
    runHistory big rs sm e h = runHistory big rs sm e (h.filter Op2.isMutator) := by
  rw [runHistory, runHistory, List.foldl_filter]
  refine congrArg (fun f => List.foldl f e h) (funext fun e => funext fun op => ?_)
  split
  · rfl
  · exact C17_queries_do_not_change_state big rs sm e op (Bool.eq_false_iff.2 ‹_›)

theorem C17_output_depends_on_state_and_args (big : α) (rs sm) (e : Eik2 α) (h : List (Op2 α)) (q : Op2 α) :
    (apiStep big rs sm (runHistory big rs sm e h) q).2
      = (apiStep big rs sm (runHistory big rs sm e (h.filter Op2.isMutator)) q).2 := by
  rw [C17_history_erasure]

/-- non-vacuity: a history mixing queries and mutators is reduced to its mutators -/
example : ([Op2.solve ((1 : Nat), (2 : Nat)) 2 true, .resample 3 4, .call (0, 0) 0, .smooth 1].filter Op2.isMutator).length = 2 := by
  decide

end Fteik
