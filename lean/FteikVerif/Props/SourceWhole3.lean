import FteikVerif.Props.SourceWhole2
/-!
# Property theorems for the whole `fteik3d` as compiled from the source

As `Props/SourceWhole2.lean`, for `Gen.F3.fteik3d` (`gen_fteik3d_eq`).  `WholeHyp3` has no `FarLaw`, but its field
`trunc` is proved for ℝ only (`wholeHyp3_real`), where `lt` is not well-founded: `Source_C07_fteik3d_converges` has no
instance without hypotheses either, and only `Source_C07_fteik3d_monotone` has a `…_real` corollary.
-/
namespace Fteik
open Scalar

variable {α : Type} [Scalar α]

structure WholeHyp3 (slow : Grid3 α) (dz dx dy zs xs ys : α) : Prop where
  rows : 1 ≤ slow.size
  cols : 1 ≤ (slow.getD 0 #[]).size
  lays : 1 ≤ ((slow.getD 0 #[]).getD 0 #[]).size
  trunc : inModel3 slow dz dx dy zs xs ys = true → TruncNonneg3 slow dz dx dy zs xs ys

theorem wholeHyp3_real (slow : Grid3 ℝ) (dz dx dy zs xs ys : ℝ) (hz : 1 ≤ slow.size) (hx : 1 ≤ (slow.getD 0 #[]).size)
    (hy : 1 ≤ ((slow.getD 0 #[]).getD 0 #[]).size) (hdz : 0 < dz) (hdx : 0 < dx) (hdy : 0 < dy) :
    WholeHyp3 slow dz dx dy zs xs ys :=
  ⟨hz, hx, hy, truncNonneg3_real slow dz dx dy zs xs ys hdz hdx hdy hz hx hy⟩

theorem gen_fteik3d_core {slow : Grid3 α} {dz dx dy zs xs ys : α} (H : WholeHyp3 slow dz dx dy zs xs ys) (big : α)
    (n : Nat) (grad : Bool) :
    (Gen.F3.fteik3d big slow dz dx dy zs xs ys (n : Int) grad).map (fun o => (o.1, o.2.2)) =
      (prepare3 big slow slow.size (slow.getD 0 #[]).size ((slow.getD 0 #[]).getD 0 #[]).size dz dx dy zs xs ys grad).map
        fun pr => (iter (sweepTT3 pr.par slow) n pr.st.tt, pr.vzero) := by
  rw [gen_fteik3d_eq big slow dz dx dy zs xs ys n grad H.rows H.cols H.lays H.trunc, Except.map_map]
  exact Out3.core_fteik3d big slow _ _ _ dz dx dy zs xs ys n grad

theorem Source_C07_fteik3d_monotone {slow : Grid3 α} {dz dx dy zs xs ys : α} (H : WholeHyp3 slow dz dx dy zs xs ys) (ht : LtTrans α)
    (big : α) (n : Nat) (grad : Bool) (o o' : Grid3 α × Grid3 (α × α × α) × α)
    (h1 : Gen.F3.fteik3d big slow dz dx dy zs xs ys (n : Int) grad = .ok o)
    (h2 : Gen.F3.fteik3d big slow dz dx dy zs xs ys ((n + 1 : Nat) : Int) grad = .ok o') :
    Grid3.NonInc o'.1 o.1 :=
  run_monotone (run := fun n : Nat => Gen.F3.fteik3d big slow dz dx dy zs xs ys (n : Int) grad) (π := fun o => (o.1, o.2.2))
    (fun n => gen_fteik3d_core H big n grad) Grid3.NonInc (fun pr g => sweepTT3_nonInc ht pr.par slow g) h1 h2

theorem Source_C07_fteik3d_converges {slow : Grid3 α} {dz dx dy zs xs ys : α} (H : WholeHyp3 slow dz dx dy zs xs ys)
    (hwf : WellFounded (fun a b : α => lt a b = true)) (ht : LtTrans α) (big : α) (grad : Bool) :
    ∃ k : Nat, ∀ (m : Nat) (o o' : Grid3 α × Grid3 (α × α × α) × α),
      Gen.F3.fteik3d big slow dz dx dy zs xs ys (k : Int) grad = .ok o →
      Gen.F3.fteik3d big slow dz dx dy zs xs ys ((k + m : Nat) : Int) grad = .ok o' → o'.1 = o.1 :=
  run_converges (run := fun n : Nat => Gen.F3.fteik3d big slow dz dx dy zs xs ys (n : Int) grad) (π := fun o => (o.1, o.2.2))
    (fun n => gen_fteik3d_core H big n grad) fun pr => C07_sweeps_reach_fixed_point_3d hwf ht pr.par slow pr.st.tt

theorem Source_C11_fteik3d_tt_independent_of_grad {slow : Grid3 α} {dz dx dy zs xs ys : α} (H : WholeHyp3 slow dz dx dy zs xs ys)
    (big : α) (n : Nat) :
    (Gen.F3.fteik3d big slow dz dx dy zs xs ys (n : Int) true).map (fun o => (o.1, o.2.2))
      = (Gen.F3.fteik3d big slow dz dx dy zs xs ys (n : Int) false).map (fun o => (o.1, o.2.2)) := by
  rw [gen_fteik3d_core H big n true, gen_fteik3d_core H big n false]
  exact prepare3_grad_indep (fun p tt v => (iter (sweepTT3 p slow) n tt, v)) ..

theorem Source_C07_fteik3d_monotone_real (big : ℝ) (slow : Grid3 ℝ) (dz dx dy zs xs ys : ℝ) (hz : 1 ≤ slow.size)
    (hx : 1 ≤ (slow.getD 0 #[]).size) (hy : 1 ≤ ((slow.getD 0 #[]).getD 0 #[]).size) (hdz : 0 < dz) (hdx : 0 < dx) (hdy : 0 < dy)
    (n : Nat) (grad : Bool) (o o' : Grid3 ℝ × Grid3 (ℝ × ℝ × ℝ) × ℝ)
    (h1 : Gen.F3.fteik3d big slow dz dx dy zs xs ys (n : Int) grad = .ok o)
    (h2 : Gen.F3.fteik3d big slow dz dx dy zs xs ys ((n + 1 : Nat) : Int) grad = .ok o') :
    Grid3.NonInc o'.1 o.1 :=
  Source_C07_fteik3d_monotone (wholeHyp3_real slow dz dx dy zs xs ys hz hx hy hdz hdx hdy) ltTrans_real big n grad o o' h1 h2

end Fteik
