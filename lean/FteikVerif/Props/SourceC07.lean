import FteikVerif.Props.C07
import FteikVerif.Proofs.GenEquivLoops2
/-!
# C07 restated for the sweep loop of the translated `fteik2d`

`Gen.F2.fteik2d_loop6` is the loop `for _ in range(nsweep): sweep2d(...)` of the source as translated
on this run; by `gen_fteik2d_sweeps` it is `iter (sweep2d …) nsweep` of the model.  Going through that
equivalence, the two theorems - unlike those of `Props/C07.lean` and `Proofs/GenStructure.lean` - also
depend on the operator formulas of the source; they are checked with the property whose theorems are
about those formulas (C01), not with C07.

Both assume `FarLaw α` (from `gen_fteik2d_sweeps`), proved for ℝ (`farLaw_real`) and false for `Float`, so they say
nothing about doubles; `Source_C07_nsweep_converges` also assumes `lt` well-founded, false for ℝ: its hypotheses hold
together at neither scalar instance of the development.
-/
namespace Fteik
open Scalar

variable {α : Type} [Scalar α]

theorem Source_C07_nsweep_monotone (hf : FarLaw α) (ht : LtTrans α) (p : Par2 α) (slow : Grid2 α) (grad : Bool)
    (n : Nat) (s : St2 α) (hr : s.tt.IsRect p.nz p.nx)
    (h1 : p.dzi = one / p.dz) (h2 : p.dxi = one / p.dx) (h3 : p.dz2i = p.dzi / p.dz) (h4 : p.dx2i = p.dxi / p.dx) :
    Grid2.NonInc
      (Gen.F2.fteik2d_loop6 p.big p.dx p.dz grad ((n + 1 : Nat) : Int) p.nx p.nz slow s.tt s.sgn p.vzero p.xsa p.xsi p.zsa p.zsi).1
      (Gen.F2.fteik2d_loop6 p.big p.dx p.dz grad (n : Int) p.nx p.nz slow s.tt s.sgn p.vzero p.xsa p.xsi p.zsa p.zsi).1 := by
  rw [gen_fteik2d_sweeps hf p slow grad (n + 1) s hr h1 h2 h3 h4, gen_fteik2d_sweeps hf p slow grad n s hr h1 h2 h3 h4]
  show Grid2.NonInc (iter (sweep2d p slow grad) (n + 1) s).tt (iter (sweep2d p slow grad) n s).tt
  rw [iter_sweep2d_tt, iter_sweep2d_tt, iter_succ']
  exact foldl_ttUpdate_nonInc ht p slow _ _

theorem Source_C07_nsweep_converges (hf : FarLaw α) (hwf : WellFounded (fun a b : α => lt a b = true)) (ht : LtTrans α)
    (p : Par2 α) (slow : Grid2 α) (grad : Bool) (s : St2 α) (hr : s.tt.IsRect p.nz p.nx)
    (h1 : p.dzi = one / p.dz) (h2 : p.dxi = one / p.dx) (h3 : p.dz2i = p.dzi / p.dz) (h4 : p.dx2i = p.dxi / p.dx) :
    ∃ k : Nat, ∀ m : Nat,
      (Gen.F2.fteik2d_loop6 p.big p.dx p.dz grad ((k + m : Nat) : Int) p.nx p.nz slow s.tt s.sgn p.vzero p.xsa p.xsi p.zsa p.zsi).1
        = (Gen.F2.fteik2d_loop6 p.big p.dx p.dz grad (k : Int) p.nx p.nz slow s.tt s.sgn p.vzero p.xsa p.xsi p.zsa p.zsi).1 := by
  obtain ⟨k, hk⟩ := C07_sweeps_reach_fixed_point_2d hwf ht p slow s.tt
  refine ⟨k, fun m => ?_⟩
  rw [gen_fteik2d_sweeps hf p slow grad (k + m) s hr h1 h2 h3 h4, gen_fteik2d_sweeps hf p slow grad k s hr h1 h2 h3 h4]
  show (iter (sweep2d p slow grad) (k + m) s).tt = (iter (sweep2d p slow grad) k s).tt
  rw [iter_sweep2d_tt, iter_sweep2d_tt, iter_add_fixed _ _ _ hk]

end Fteik
