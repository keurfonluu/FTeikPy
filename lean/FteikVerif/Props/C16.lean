import FteikVerif.Props.C17
import FteikVerif.Props.C14
/-!
# C16 — resample and smooth change the sampling, not the physical model

`Model/Api.lean` + the state machine of `Props/C17.lean` (the 2-D object `Eik2`); SciPy's
`RegularGridInterpolator` and `gaussian_filter` are parameters (`rs`, `sm`).

* `C16_resample_extent` (ℝ): the new spacing times the new number of cells equals the old spacing
  times the old number of cells, per axis; `C16_resample_geometry`: requested shape, origin unchanged.
* `C16_smooth_sigma_units` (ℝ): the sigma handed to the filter (in cells) is invariant under a
  change of length unit; `C16_smooth_geometry`: shape, spacing, origin untouched.
* `C16_solve_after_edit`: a `solve` after an operation `op` is `Eik2.solve` on the state `op` left - by `rfl`, for
  every `op`, mutator or not: nothing in it is specific to an edit.
* `C16_linear_value_range` (ℝ): a value of the package's own bilinear interpolation `interp2d` (C14) inside the hull
  lies within any bounds of the node values.  Nothing ties `rs` to `interp2d`: for a resampled value this is the
  theorem read for SciPy's linear method.

Not proved: anything about the values `rs` and `sm` return (value range, constants, monotone profiles).  That SciPy's
linear/nearest interpolants are convex combinations / selections of node values and that the Gaussian filter has
non-negative weights summing to one are hypotheses of no theorem; those clauses are checked on the running code.
-/
namespace Fteik

theorem C16_resample_extent (d : ℝ) (nOld nNew : Nat) (h : 0 < nNew) :
    resampleSpacing d nOld nNew * (nNew : ℝ) = d * (nOld : ℝ) :=
  div_mul_cancel₀ _ (Nat.cast_ne_zero.2 (Nat.pos_iff_ne_zero.1 h))

section generic
variable {α : Type} [Scalar α]

theorem C16_resample_geometry (big : α) (rs sm) (e : Eik2 α) (nz nx : Nat) :
    let e' := (apiStep big rs sm e (.resample nz nx)).1
    e'.nzc = nz ∧ e'.nxc = nx ∧ e'.oz = e.oz ∧ e'.ox = e.ox
      ∧ e'.dz = resampleSpacing e.dz e.nzc nz ∧ e'.dx = resampleSpacing e.dx e.nxc nx
      ∧ e'.grid = rs e.grid nz nx :=
  ⟨rfl, rfl, rfl, rfl, rfl, rfl, rfl⟩

theorem C16_smooth_geometry (big : α) (rs sm) (e : Eik2 α) (s : α) :
    let e' := (apiStep big rs sm e (.smooth s)).1
    e'.nzc = e.nzc ∧ e'.nxc = e.nxc ∧ e'.dz = e.dz ∧ e'.dx = e.dx ∧ e'.oz = e.oz ∧ e'.ox = e.ox
      ∧ e'.grid = sm e.grid (smoothSigma s e.dz, smoothSigma s e.dx) :=
  ⟨rfl, rfl, rfl, rfl, rfl, rfl, rfl⟩

theorem C16_solve_after_edit (big : α) (rs sm) (e : Eik2 α) (op : Op2 α) (src : α × α) (n : Nat) (g : Bool) :
    (apiStep big rs sm (apiStep big rs sm e op).1 (.solve src n g)).2
      = .tt ((apiStep big rs sm e op).1.solve big src n g) :=
  rfl

end generic

theorem C16_smooth_sigma_units (sigma d c : ℝ) (hc : c ≠ 0) (hd : d ≠ 0) :
    smoothSigma (c * sigma) (c * d) = smoothSigma sigma d :=
  mul_div_mul_left sigma d hc

theorem C16_linear_value_range (x y : Array ℝ) (v : Grid2 ℝ) (xq yq fval m M : ℝ)
    (hx : StrictAxis x) (hy : StrictAxis y)
    (hsx : x.size = (v.size - 1) + 1) (hsy : y.size = ((v.getD 0 #[]).size - 1) + 1)
    (hinx : inside x xq = true) (hiny : inside y yq = true)
    (hb : ∀ i j, i < x.size → j < y.size → m ≤ v.get 0 i j ∧ v.get 0 i j ≤ M) :
    m ≤ interp2d x y v xq yq fval ∧ interp2d x y v xq yq fval ≤ M :=
  C14_interp2d_between x y v xq yq fval m M hx hy hsx hsy hinx hiny fun _ _ hda hdb ha hb' =>
    hb _ _ ((axisCell_facts x _ xq hx hsx hinx).corner_lt hsx hda ha)
      ((axisCell_facts y _ yq hy hsy hiny).corner_lt hsy hdb hb')

/-- non-vacuity of `C16_resample_extent`: 8 cells of 0.5 resampled to 16 cells of 0.25 -/
example : resampleSpacing (0.5 : ℝ) 8 16 * 16 = 0.5 * 8 := by
  simpa using C16_resample_extent 0.5 8 16 (by decide)

end Fteik
