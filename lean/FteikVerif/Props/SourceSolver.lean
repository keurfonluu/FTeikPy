import FteikVerif.Proofs.GenEquivSolver2
import FteikVerif.Proofs.GenEquivSolver3
import FteikVerif.Proofs.GenReal
import FteikVerif.Props.C01
import FteikVerif.Props.C05
/-!
# Property theorems restated for the kernels translated from the source

`Fteik.Gen.*` are the definitions `harness/translate.py` regenerates from `/repo`'s working tree
on every run.  The theorems here are the property theorems of `Props/Cxx.lean` transported along
the equivalences of `Proofs/GenEquiv*.lean`: they speak about what the source says now, not about
the hand-written model.  All are over ℝ:
`gen_sweep2`, behind the C05 theorems, needs `FarLaw`, which is false for `Float`.
-/
namespace Fteik
open Scalar

/-- **C01 on the source**: `t_ana` with the source converted to grid units is slowness × Euclidean
distance in physical units -/
theorem Source_C01_t_ana_eq_dist (i j : Int) (dz dx zs xs s : ℝ) (hz : dz ≠ 0) (hx : dx ≠ 0) :
    Gen.F2.t_ana i j dz dx (zs / dz) (xs / dx) s
      = s * Real.sqrt (((i : ℝ) * dz - zs) ^ 2 + ((j : ℝ) * dx - xs) ^ 2) := by
  rw [gen_tAna]; exact C01_tAna_eq_dist i j dz dx zs xs s hz hx

theorem Source_C01_t_ana3_eq_dist (i j k : Int) (dz dx dy zs xs ys s : ℝ) (hz : dz ≠ 0) (hx : dx ≠ 0) (hy : dy ≠ 0) :
    Gen.F3.t_ana i j k dz dx dy (zs / dz) (xs / dx) (ys / dy) s
      = s * Real.sqrt (((i : ℝ) * dz - zs) ^ 2 + ((j : ℝ) * dx - xs) ^ 2 + ((k : ℝ) * dy - ys) ^ 2) := by
  rw [gen_tAna3]; exact C01_tAna3_eq_dist i j k dz dx dy zs xs ys s hz hx hy

/-- **C01 on the source**: the quadratic of the perturbation operator returns the analytic time at
zero perturbation -/
theorem Source_C01_delta_exact (t1 t0c tzc txc dzi dxi dz2i dx2i vz : ℝ) (sz sx : Int)
    (ha : 0 < dz2i + dx2i) (hb : 0 ≤ (sx : ℝ) * txc * dxi + (sz : ℝ) * tzc * dzi) :
    Gen.F2.delta t1 0 0 0 t0c tzc txc dzi dxi dz2i dx2i vz vz sz sx = t0c := by
  rw [gen_delta]; exact C01_delta_exact t1 t0c tzc txc dzi dxi dz2i dx2i vz sz sx ha hb

/-- **C05 on the source (slowness)**: one call of the source's `sweep` commutes with multiplying all
slownesses, `Big` and the current times by `c > 0`; the sign bookkeeping is unchanged. -/
theorem Source_C05_sweep_slowness (p : Par2 ℝ) (slow' slow : Grid2 ℝ) (grad : Bool) (s' s : St2 ℝ) (c : ℝ)
    (hc : 0 < c) (hs : ∀ a b, slow'.get 0 a b = c * slow.get 0 a b) (h : RelSt c s' s)
    (i j : Nat) (d : Dir2) (hin : s.tt.InB i j) (hin' : s'.tt.InB i j) :
    let q := p.scaleS c
    let o' := Gen.F2.sweep q.big s'.tt s'.sgn slow' (q.dz, q.dx, q.dzi, q.dxi, q.dz2i, q.dx2i)
        (ofInt q.zsi) (ofInt q.xsi) q.zsa q.xsa q.vzero i j d.sgnvz d.sgnvx d.sgntz d.sgntx q.nz q.nx grad
    let o := Gen.F2.sweep p.big s.tt s.sgn slow (p.dz, p.dx, p.dzi, p.dxi, p.dz2i, p.dx2i)
        (ofInt p.zsi) (ofInt p.xsi) p.zsa p.xsa p.vzero i j d.sgnvz d.sgnvx d.sgntz d.sgntx p.nz p.nx grad
    RelSt c ⟨o'.1, o'.2⟩ ⟨o.1, o.2⟩ := by
  intro q o' o
  have e' := gen_sweep2 farLaw_real q slow' grad s' i j d hin'
  have e := gen_sweep2 farLaw_real p slow grad s i j d hin
  simp only [o', o, e', e]
  exact nodeUpdate2_scale hc h (candidates2_scaleS p slow' slow s'.tt s.tt c hc _ _ _ hs h.tt)

theorem Source_C05_sweep_length (p : Par2 ℝ) (slow : Grid2 ℝ) (grad : Bool) (s' s : St2 ℝ) (c : ℝ)
    (hc : 0 < c) (h : RelSt c s' s)
    (i j : Nat) (d : Dir2) (hin : s.tt.InB i j) (hin' : s'.tt.InB i j) :
    let q := p.scaleL c
    let o' := Gen.F2.sweep q.big s'.tt s'.sgn slow (q.dz, q.dx, q.dzi, q.dxi, q.dz2i, q.dx2i)
        (ofInt q.zsi) (ofInt q.xsi) q.zsa q.xsa q.vzero i j d.sgnvz d.sgnvx d.sgntz d.sgntx q.nz q.nx grad
    let o := Gen.F2.sweep p.big s.tt s.sgn slow (p.dz, p.dx, p.dzi, p.dxi, p.dz2i, p.dx2i)
        (ofInt p.zsi) (ofInt p.xsi) p.zsa p.xsa p.vzero i j d.sgnvz d.sgnvx d.sgntz d.sgntx p.nz p.nx grad
    RelSt c ⟨o'.1, o'.2⟩ ⟨o.1, o.2⟩ := by
  intro q o' o
  have e' := gen_sweep2 farLaw_real q slow grad s' i j d hin'
  have e := gen_sweep2 farLaw_real p slow grad s i j d hin
  simp only [o', o, e', e]
  exact nodeUpdate2_scale hc h (candidates2_scaleL p slow s'.tt s.tt c hc _ _ _ h.tt)

end Fteik
