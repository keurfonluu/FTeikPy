import FteikVerif.Proofs.GenEquivVInterp
import FteikVerif.Props.C09
/-!
# Property theorems restated for the kernels translated from the source

As `Props/SourceSolver.lean`, for the traveltime interpolation kernels (`_vinterp2d`).
-/
namespace Fteik

theorem Source_C09_vinterp2d_at_source (x y : Array ℝ) (v : Grid2 ℝ) (xs ys vz fval : ℝ)
    (hx : 0 < x.size) (hy : 0 < y.size) (hv : 0 < v.size) (hv0 : 0 < (v.getD 0 #[]).size)
    (hin : inside x xs = true ∧ inside y ys = true) :
    Gen.V2.vinterp2d x y v xs ys xs ys vz fval = 0 := by
  rw [gen_vinterp2d x y v xs ys xs ys vz fval hx hy hv hv0]
  exact C09_vinterp2d_at_source x y v xs ys vz fval hin

end Fteik
