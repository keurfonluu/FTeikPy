import FteikVerif.Model.Par
/-!
# C08 — list (parallel) calls equal single calls for every schedule

* `C08_any_schedule_eq_sequential`: for a loop body whose iterations write only into their own
  output slot, **every** interleaving of the iterations' write events (any thread count, chunk
  size, iteration order, pre-emption between individual element writes) leaves every location
  with the value the sequential loop leaves there.  Both sides are `exec_schedule_at`: what a schedule leaves at
  `loc` are the writes of iteration `loc.slot` addressed to `loc`, in that iteration's own order.
* `C08_slot_eq_own_iteration`: in particular slot `i` holds what iteration `i` alone wrote.
* the dispatch / re-assembly theorems (`solve(list) = mapM solve`: `C13_solve_list_eq_mapM`, `…_3d`,
  `C13_ray_list_eq_mapM`) are in `Props/C13.lean` together with the error logic they share; the lists of query
  points (`_interp*_vectorized`, `_vinterp*_vectorized`) have theirs on the translated source only
  (`Proofs/GenListInterp`, `Proofs/GenListVInterp`).

That the eight `*_vectorized` loops of the package are such bodies (stores only to `name[i]` of
the loop variable, callee pure, scratch allocated per iteration, no module-level mutable state) is
checked on the AST on every run and recorded as a table of Booleans (`Generated/Effects.lean`); no Lean statement
links that table to `Body.OwnSlot`.  That numba's threading layers
implement `prange` as this model assumes is not provable here; it is exercised by the JIT runs of
the check (thread counts, chunk sizes, layers, concurrent callers).
-/
namespace Fteik.Par

variable {V : Type}

theorem exec_append (l1 l2 : List (Nat × Ev V)) (m : Mem V) :
    exec (l1 ++ l2) m = exec l2 (exec l1 m) :=
  List.foldl_append

theorem exec_eq_foldl_map (l : List (Nat × Ev V)) (m : Mem V) :
    exec l m = (l.map (·.2)).foldl (fun m e => m.write e) m :=
  List.foldl_map.symm

theorem foldl_write_filter_loc (es : List (Ev V)) (m : Mem V) (loc : Loc) :
    es.foldl (fun m e => m.write e) m loc = (es.filter (fun e => e.loc == loc)).foldl (fun m e => m.write e) m loc := by
  rw [List.foldl_filter]
  -- agreement at `loc` is kept by every step, whether or not a write elsewhere is dropped
  refine List.foldl_rel (r := fun m1 m2 : Mem V => m1 loc = m2 loc) rfl fun e _ m1 m2 h => ?_
  by_cases he : e.loc = loc
  · simp [Mem.write, he]
  · simp [Mem.write, he, Ne.symm he, h]

theorem IsSchedule.mem {b : Body V} {l : List (Nat × Ev V)} (hl : IsSchedule b l) {e : Nat × Ev V}
    (he : e ∈ l) : e.2 ∈ b.events e.1 := by
  have h := hl.2 e.1
  rw [if_pos (hl.1 e he)] at h
  rw [← h]
  exact List.mem_map.mpr ⟨e, List.mem_filter.mpr ⟨he, beq_self_eq_true _⟩, rfl⟩

theorem IsSchedule.filter_loc {b : Body V} (hb : b.OwnSlot) {l : List (Nat × Ev V)} (hl : IsSchedule b l)
    (loc : Loc) :
    (l.map (·.2)).filter (fun e => e.loc == loc)
      = (if loc.slot < b.n then b.events loc.slot else []).filter (fun e => e.loc == loc) := by
  rw [← hl.2 loc.slot, List.filter_map, List.filter_map, List.filter_filter]
  congr 1
  -- an event addressed to `loc` is tagged `loc.slot`
  refine List.filter_congr fun e he => (Bool.and_eq_left_iff_imp.2 fun h => ?_).symm
  rw [← hb e.1 e.2 (hl.mem he), show e.2.loc = loc from eq_of_beq h]
  exact beq_self_eq_true _

theorem sequential_isSchedule (b : Body V) : IsSchedule b (sequential b) := by
  constructor
  · intro e he
    simp only [sequential, List.mem_flatMap, List.mem_range, List.mem_map] at he
    obtain ⟨i, hi, x, _, rfl⟩ := he
    exact hi
  · intro i
    simp only [sequential, List.filter_flatMap, List.map_flatMap, List.filter_map, List.map_map,
      Function.comp_def, List.map_id']
    -- the left side is `(range b.n).flatMap fun j => (b.events j).filter fun _ => j == i`
    induction b.n with
    | zero => rfl
    | succ n ih =>
      rw [List.range_succ, List.flatMap_append, ih, List.flatMap_singleton]
      rcases Nat.lt_trichotomy i n with h | rfl | h
      · simp [h, Nat.lt_succ_of_lt h, Nat.ne_of_gt h]
      · simp
      · simp [Nat.not_lt_of_gt h, Nat.ne_of_lt h, show ¬ i < n + 1 by omega]

theorem exec_schedule_at (b : Body V) (hb : b.OwnSlot) (l : List (Nat × Ev V)) (hl : IsSchedule b l)
    (m : Mem V) (loc : Loc) :
    exec l m loc =
      ((if loc.slot < b.n then b.events loc.slot else []).filter (fun e => e.loc == loc)).foldl
        (fun m e => m.write e) m loc := by
  rw [exec_eq_foldl_map, foldl_write_filter_loc, hl.filter_loc hb]

theorem C08_any_schedule_eq_sequential (b : Body V) (hb : b.OwnSlot) (l : List (Nat × Ev V))
    (hl : IsSchedule b l) (m : Mem V) (loc : Loc) :
    exec l m loc = exec (sequential b) m loc := by
  rw [exec_schedule_at b hb l hl m loc, exec_schedule_at b hb _ (sequential_isSchedule b) m loc]

theorem C08_slot_eq_own_iteration (b : Body V) (hb : b.OwnSlot) (l : List (Nat × Ev V))
    (hl : IsSchedule b l) (m : Mem V) (loc : Loc) (hlt : loc.slot < b.n) :
    exec l m loc = (b.events loc.slot).foldl (fun m e => m.write e) m loc := by
  rw [exec_schedule_at b hb l hl m loc, if_pos hlt, ← foldl_write_filter_loc]

/-- non-vacuity: a two-iteration body with two writes each, and a genuinely interleaved schedule -/
example : ∃ (b : Body Nat) (l : List (Nat × Ev Nat)), b.OwnSlot ∧ IsSchedule b l ∧ l ≠ sequential b :=
  ⟨⟨2, fun i => [⟨⟨0, i, 0⟩, i⟩, ⟨⟨0, i, 1⟩, i + 10⟩]⟩,
    [(1, ⟨⟨0, 1, 0⟩, 1⟩), (0, ⟨⟨0, 0, 0⟩, 0⟩), (1, ⟨⟨0, 1, 1⟩, 11⟩), (0, ⟨⟨0, 0, 1⟩, 10⟩)],
    fun i => by simp, ⟨by decide, fun | 0 => rfl | 1 => rfl | _ + 2 => rfl⟩, by decide⟩

end Fteik.Par
