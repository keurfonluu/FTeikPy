import FteikVerif.Proofs.GradIndep
import FteikVerif.Props.C07
/-!
# C11 — gradient field: unit vectors that do not perturb the traveltimes

* `C11_tt_independent_of_grad_2d/3d` (∀ scalar types, hence bit-for-bit for doubles): the
  traveltime grid and the source-cell slowness returned with `grad = true` are those returned
  with `grad = false`; the outcome class (ok / error) is the same.
* `C11_grad_unit_or_zero_2d/3d` (ℝ): every assembled gradient vector has Euclidean norm 1 or is
  the zero vector.

Not proved (measured by the oracle sweep): "zero *only* at the source" (depends on which
operator set each node), direction within ~20° of radial, agreement with finite differences.
-/
namespace Fteik

section generic
variable {α : Type} [Scalar α]

theorem initState2_grad_indep (su : Setup2 α) (slow : Grid2 α) (g1 g2 : Bool) :
    (initState2 su slow g1).par = (initState2 su slow g2).par ∧
    (initState2 su slow g1).st.tt = (initState2 su slow g2).st.tt := by
  unfold initState2
  simp only
  split
  · refine ⟨rfl, ?_⟩
    show (initOffGrid _ slow g1 _ _ _).core.1 = (initOffGrid _ slow g2 _ _ _).core.1
    exact congrArg Prod.fst (initOffGrid_core _ slow g1 g2 _ _ _ _ rfl)
  · exact ⟨rfl, rfl⟩

theorem prepare2_grad_indep {β : Type} (F : Par2 α → Grid2 α → β) (big : α) (slow : Grid2 α)
    (nzc nxc : Nat) (dz dx zs xs : α) (g1 g2 : Bool) :
    (prepare2 big slow nzc nxc dz dx zs xs g1).map (fun p => F p.par p.st.tt)
      = (prepare2 big slow nzc nxc dz dx zs xs g2).map (fun p => F p.par p.st.tt) := by
  unfold prepare2
  cases setup2 big slow nzc nxc dz dx zs xs with
  | error e => rfl
  | ok su =>
    obtain ⟨h1, h2⟩ := initState2_grad_indep su slow g1 g2
    show Except.ok (F (initState2 su slow g1).par (initState2 su slow g1).st.tt) = Except.ok _
    rw [h1, h2]

theorem C11_tt_independent_of_grad_2d (big : α) (slow : Grid2 α) (nzc nxc : Nat) (dz dx zs xs : α)
    (n : Nat) :
    Out2.core (fteik2d big slow nzc nxc dz dx zs xs n true)
      = Out2.core (fteik2d big slow nzc nxc dz dx zs xs n false) := by
  rw [Out2.core_fteik2d, Out2.core_fteik2d]
  exact prepare2_grad_indep (fun p tt => (iter (sweepTT p slow) n tt, p.vzero)) ..

omit [Scalar α] in
/-- the traveltime component of the corner loop of `prepare3` is a loop of its own -/
theorem cornerFold_fst (g : Bool) (T : Nat × Nat × Nat → α × α × α × α) (l : List (Nat × Nat × Nat))
    (tt : Grid3 α) (gv : Grid3 (α × α × α)) :
    (l.foldl (fun (acc : Grid3 α × Grid3 (α × α × α)) c =>
        let (t, tzc, txc, tyc) := T c
        (acc.1.set c.1 c.2.1 c.2.2 t, if g then acc.2.set c.1 c.2.1 c.2.2 (tzc, txc, tyc) else acc.2))
      (tt, gv)).1 = l.foldl (fun tt c => tt.set c.1 c.2.1 c.2.2 (T c).1) tt :=
  (List.foldl_hom Prod.fst fun _ _ => rfl).symm

theorem prepare3_grad_indep {β : Type} (F : Par3 α → Grid3 α → α → β) (big : α) (slow : Grid3 α)
    (nzc nxc nyc : Nat) (dz dx dy zs xs ys : α) (g1 g2 : Bool) :
    (prepare3 big slow nzc nxc nyc dz dx dy zs xs ys g1).map (fun p => F p.par p.st.tt p.vzero)
      = (prepare3 big slow nzc nxc nyc dz dx dy zs xs ys g2).map (fun p => F p.par p.st.tt p.vzero) := by
  unfold prepare3
  extract_lets condz condx condy
  cases !(condz && condx && condy)
  · simp only [cornerFold_fst, Except.map, Bool.false_eq_true, if_false]
  · rfl

theorem C11_tt_independent_of_grad_3d (big : α) (slow : Grid3 α) (nzc nxc nyc : Nat)
    (dz dx dy zs xs ys : α) (n : Nat) :
    Out3.core (fteik3d big slow nzc nxc nyc dz dx dy zs xs ys n true)
      = Out3.core (fteik3d big slow nzc nxc nyc dz dx dy zs xs ys n false) := by
  rw [Out3.core_fteik3d, Out3.core_fteik3d]
  exact prepare3_grad_indep (fun p tt v => (iter (sweepTT3 p slow) n tt, v)) ..

end generic

/-- the 2-D case is `c = 0` -/
theorem unit_or_zero (a b c : ℝ) :
    let n := Real.sqrt (a * a + b * b + c * c)
    (0 < n → Real.sqrt (a / n * (a / n) + b / n * (b / n) + c / n * (c / n)) = 1)
      ∧ (¬ 0 < n → a = 0 ∧ b = 0 ∧ c = 0) := by
  intro n
  have hab : 0 ≤ a * a + b * b := add_nonneg (mul_self_nonneg _) (mul_self_nonneg _)
  have hS : 0 ≤ a * a + b * b + c * c := add_nonneg hab (mul_self_nonneg _)
  refine ⟨fun hpos => ?_, fun hnp => ?_⟩
  · -- the squares of the quotients add up to `n * n / (n * n)`
    rw [div_mul_div_comm, div_mul_div_comm, div_mul_div_comm, ← add_div, ← add_div, ← Real.mul_self_sqrt hS,
      div_self (mul_self_ne_zero.2 hpos.ne'), Real.sqrt_one]
  · have hs := hS.antisymm' (not_lt.1 (mt Real.sqrt_pos.2 hnp))
    obtain ⟨h2, hc⟩ := (add_eq_zero_iff_of_nonneg hab (mul_self_nonneg c)).1 hs
    exact ⟨(mul_self_add_mul_self_eq_zero.1 h2).1, (mul_self_add_mul_self_eq_zero.1 h2).2, mul_self_eq_zero.1 hc⟩

theorem C11_grad_unit_or_zero_2d (dz dx : ℝ) (tt : Grid2 ℝ) (sg : Int × Int) (g0 : ℝ × ℝ) (i j : Nat) :
    let g := gradNode2 dz dx tt sg g0 i j
    norm2d g.1 g.2 = 1 ∨ g = (0, 0) := by
  unfold gradNode2
  extract_lets gz gx gn g
  obtain ⟨h1, h0⟩ := unit_or_zero gz gx 0
  simp only [zero_div, mul_zero, add_zero] at h1 h0
  simp only [g, gn, norm2d, real_sqrt, real_gt, real_zero]
  split
  · exact Or.inl (h1 ‹_›)
  · obtain ⟨hz, hx, -⟩ := h0 ‹_›
    exact Or.inr (by rw [hz, hx])

theorem C11_grad_unit_or_zero_3d (dz dx dy : ℝ) (tt : Grid3 ℝ) (sg : Int × Int × Int) (g0 : ℝ × ℝ × ℝ)
    (i j k : Nat) :
    let g := gradNode3 dz dx dy tt sg g0 i j k
    norm3d g.1 g.2.1 g.2.2 = 1 ∨ g = (0, 0, 0) := by
  unfold gradNode3
  extract_lets t gz gx gy gn g
  obtain ⟨h1, h0⟩ := unit_or_zero gz gx gy
  simp only [g, gn, norm3d, real_sqrt, real_gt, real_zero]
  split
  · exact Or.inl (h1 ‹_›)
  · obtain ⟨hz, hx, hy⟩ := h0 ‹_›
    exact Or.inr (by rw [hz, hx, hy])

end Fteik
