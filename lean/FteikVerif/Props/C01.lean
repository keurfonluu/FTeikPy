import FteikVerif.Proofs.Physics
/-!
# C01 — homogeneous media: traveltime equals distance over velocity

Over ℝ, local exactness of the pieces of the 2-D solver in a homogeneous medium (of the 3-D solver only `t_ana`):

* `C01_tAna_eq_dist`, `C01_tAna3_eq_dist`: with the source converted to grid units (`zsrc/dz`), `t_ana` is
  slowness × Euclidean distance between node and source — this pins the conversion physical → grid units.
* `C01_tAnad_time`: the time component of the 2-D `t_anad` is `t_ana`; it is what `fteik2d` stores at the 4 nodes
  around an off-grid source (`fteik3d` stores that of its own `t_anad` at 8 nodes: no theorem about `tAnad3`, and none
  that reads the initialised grid).
* `C01_delta_exact`: with zero perturbations, `vref = vzero` and `sgnt · ∇t_ana ≥ 0` (the node is downwind of the
  source) the quadratic of the perturbation operator returns its argument `t0c`, in `sweep` the analytic time.
* `C01_spherical_exact`: hence, if the three upwind neighbours hold their analytic times and the node is downwind of
  the source, the candidate of the perturbation operator (`spherical2`, used inside the ±5 box) is the analytic time of
  the node or `Big`; the statement is this disjunction and does not say under which guard `Big` is returned.
* `C01_fourPoint_planewave`: the 4-point formula `fourPoint` is exact on plane waves.  `fourPoint` is a definition of
  the proof side; the model's plane-wave operator outside the box equals it under its first guard
  (`planeWave2_eq_fourPoint`), and no theorem shows that guard for plane-wave inputs, so this is not a statement
  about `planeWave2`.

Not proved (oracle only): the *global* clauses — "within five cells exact to rounding" for the
composed sweep, "about one percent beyond for aspect ≤ 2", "3-D error ≤ one cell crossing time".
-/
namespace Fteik

theorem C01_tAna_eq_dist (i j : Int) (dz dx zs xs s : ℝ) (hz : dz ≠ 0) (hx : dx ≠ 0) :
    tAna i j dz dx (zs / dz) (xs / dx) s = s * Real.sqrt (((i : ℝ) * dz - zs) ^ 2 + ((j : ℝ) * dx - xs) ^ 2) :=
  tAna_eq_dist i j dz dx zs xs s hz hx

theorem C01_tAna3_eq_dist (i j k : Int) (dz dx dy zs xs ys s : ℝ) (hz : dz ≠ 0) (hx : dx ≠ 0) (hy : dy ≠ 0) :
    tAna3 i j k dz dx dy (zs / dz) (xs / dx) (ys / dy) s
      = s * Real.sqrt (((i : ℝ) * dz - zs) ^ 2 + ((j : ℝ) * dx - xs) ^ 2 + ((k : ℝ) * dy - ys) ^ 2) := by
  unfold tAna3
  simp only [real_sq, real_sqrt, real_ofInt, grid_units hz, grid_units hx, grid_units hy]

theorem C01_tAnad_time (i j : Int) (dz dx zsa xsa s : ℝ) : (tAnad i j dz dx zsa xsa s).1 = tAna i j dz dx zsa xsa s := by
  unfold tAnad; simp only; split <;> rfl

theorem C01_delta_exact (t1 t0c tzc txc dzi dxi dz2i dx2i vz : ℝ) (sz sx : Int)
    (ha : 0 < dz2i + dx2i) (hb : 0 ≤ (sx : ℝ) * txc * dxi + (sz : ℝ) * tzc * dzi) :
    delta t1 0 0 0 t0c tzc txc dzi dxi dz2i dx2i vz vz sz sx = t0c :=
  delta_exact t1 t0c tzc txc dzi dxi dz2i dx2i vz sz sx ha hb

theorem C01_spherical_exact (p : Par2 ℝ) (i j : Nat) (d : Dir2)
    (ha : 0 < p.dz2i + p.dx2i)
    (hup : 0 ≤ (d.sgntx : ℝ) * (tAnad i j p.dz p.dx p.zsa p.xsa p.vzero).2.2 * p.dxi
             + (d.sgntz : ℝ) * (tAnad i j p.dz p.dx p.zsa p.xsa p.vzero).2.1 * p.dzi) :
    let tv := tAna (Int.ofNat i - d.sgntz) j p.dz p.dx p.zsa p.xsa p.vzero
    let te := tAna i (Int.ofNat j - d.sgntx) p.dz p.dx p.zsa p.xsa p.vzero
    let tev := tAna (Int.ofNat i - d.sgntz) (Int.ofNat j - d.sgntx) p.dz p.dx p.zsa p.xsa p.vzero
    spherical2 p p.vzero tv te tev i j d = tAna i j p.dz p.dx p.zsa p.xsa p.vzero
      ∨ spherical2 p p.vzero tv te tev i j d = p.big := by
  intro tv te tev
  rw [← C01_tAnad_time]
  unfold spherical2
  generalize tAnad i j p.dz p.dx p.zsa p.xsa p.vzero = T at hup ⊢
  obtain ⟨t0c, tzc, txc⟩ := T
  split
  · simp only [tv, te, tev, sub_self, delta_exact _ _ _ _ _ _ _ _ _ _ _ ha hup]
    split
    · exact Or.inr rfl
    · exact Or.inl rfl
  · exact Or.inr rfl

theorem C01_fourPoint_planewave (dz dx vref pz px tev : ℝ) (hdz : 0 < dz) (hdx : 0 < dx) (hpz : 0 ≤ pz) (hpx : 0 ≤ px)
    (hp : pz ^ 2 + px ^ 2 = vref ^ 2) :
    fourPoint (1 / dz / dz) (1 / dx / dx) vref (tev + px * dx) (tev + pz * dz) tev = tev + pz * dz + px * dx :=
  fourPoint_planewave dz dx vref pz px tev hdz hdx hpz hpx hp

end Fteik
