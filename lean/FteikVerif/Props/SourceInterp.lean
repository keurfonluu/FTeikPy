import FteikVerif.Proofs.GenEquivInterp
import FteikVerif.Props.C14
/-!
# Property theorems restated for the kernels translated from the source

As `Props/SourceSolver.lean`, for the interpolation kernels.
-/
namespace Fteik

/-- **C14 on the source**: inside the hull `_interp2d` is the separable-weights combination of the
four grid values around the query -/
theorem Source_C14_interp2d_weights (x y : Array ℝ) (v : Grid2 ℝ) (xq yq fval : ℝ)
    (hx : StrictAxis x) (hy : StrictAxis y)
    (hsx : x.size = (v.size - 1) + 1) (hsy : y.size = ((v.getD 0 #[]).size - 1) + 1)
    (hv : 0 < v.size) (hv0 : 0 < (v.getD 0 #[]).size)
    (hinx : inside x xq = true) (hiny : inside y yq = true) :
    let a := axisCell x (v.size - 1) xq
    let b := axisCell y ((v.getD 0 #[]).size - 1) yq
    Gen.I2.interp2d x y v xq yq fval =
      a.w0 xq * b.w0 yq * v.get 0 a.i1 b.i1 + a.w1 xq * b.w0 yq * v.get 0 (a.i1 + 1) b.i1
      + a.w0 xq * b.w1 yq * v.get 0 a.i1 (b.i1 + 1) + a.w1 xq * b.w1 yq * v.get 0 (a.i1 + 1) (b.i1 + 1) := by
  intro a b
  rw [gen_interp2d x y v xq yq fval (hsx ▸ Nat.succ_pos _) (hsy ▸ Nat.succ_pos _) hv hv0]
  exact C14_interp2d_weights x y v xq yq fval hx hy hsx hsy hinx hiny

end Fteik
