import FteikVerif.Proofs.Homog
/-!
# C05 — unit invariance: times scale linearly with slowness and with length

Exact-arithmetic (ℝ) theorems about the 2-D sweep, `c > 0`:

* every operator of the 2-D `sweep` is homogeneous of degree 1 under the two unit changes
  (slowness: `slow, vzero, Big ↦ c·`; length: `dz, dx, Big ↦ c·`, inverse spacings accordingly):
  `t_ana`, `t_anad`, `delta`, the plane-wave 4-point/3-point operators, the perturbation operator, the three candidates
  (`…_scaleS`, `…_scaleL`: the cases `(c, 1)` and `(1, c)` of the one change of units "slownesses × a,
  lengths × b, times × a·b" of `Proofs/Homog.lean`);
* `C05_sweep_slowness` / `C05_sweep_length`: hence **any number of sweeps** maps `c ·` the state
  to `c ·` the state (`RelSt`: times × `c`, read out by `C05_times_scale`, and the same sign grid `ttsgn`; the
  gradient computed from the two afterwards is not covered);
* `C05_grid_position_invariant`: the identity `(c·zsrc)/(c·dz) = zsrc/dz` between reals, which mentions no definition
  of the model.  `fteik2d` classifies the source in grid units `zsrc/dz`, which is why `Par2.scaleL` keeps `zsa`, `xsa`,
  `zsi`, `xsi`; no theorem applies the identity to `setup2` or `classifySource`.
* `C05_scaleL_is_recomputed`: `Par2.scaleL` keeps the relations `dzi = 1/dz`, `dz2i = dzi/dz` by which `sweep2d`
  (in the model: `setup2`) computes the inverse spacings (a fact about `Par2`, stated for the Z fields).

Not proved: anything about the off-grid source initialisation (`initOffGrid`, 8 mirrored blocks calling `delta`, with
the `td` scratch array), hence about `fteik2d` as a whole; anything about 3-D, the interpolation or the rays.  The whole
solver is covered by the metamorphic oracle on the running code (bit-for-bit for powers of two).  `Big` is scaled with
`c` in these theorems (in `_fteik2d.py` it is the constant `1e5`); independence of the result from `Big` is not proved.
-/
namespace Fteik

theorem tAna_scaleS (i j : Int) (dz dx zsa xsa vz c : ℝ) :
    tAna i j dz dx zsa xsa (c * vz) = c * tAna i j dz dx zsa xsa vz := by
  simpa only [one_mul, mul_one] using tAna_scale i j dz dx zsa xsa vz c 1 zero_le_one

theorem tAna_scaleL (i j : Int) (dz dx zsa xsa vz c : ℝ) (hc : 0 ≤ c) :
    tAna i j (c * dz) (c * dx) zsa xsa vz = c * tAna i j dz dx zsa xsa vz := by
  simpa only [one_mul] using tAna_scale i j dz dx zsa xsa vz 1 c hc

theorem tAnad_scaleS (i j : Int) (dz dx zsa xsa vz c : ℝ) (hc : 0 < c) :
    tAnad i j dz dx zsa xsa (c * vz) =
      (c * (tAnad i j dz dx zsa xsa vz).1, c * (tAnad i j dz dx zsa xsa vz).2.1, c * (tAnad i j dz dx zsa xsa vz).2.2) := by
  simpa only [one_mul, mul_one] using tAnad_scale i j dz dx zsa xsa vz c 1 hc one_pos

theorem tAnad_scaleL (i j : Int) (dz dx zsa xsa vz c : ℝ) (hc : 0 < c) :
    tAnad i j (c * dz) (c * dx) zsa xsa vz =
      (c * (tAnad i j dz dx zsa xsa vz).1, (tAnad i j dz dx zsa xsa vz).2.1, (tAnad i j dz dx zsa xsa vz).2.2) := by
  simpa only [one_mul] using tAnad_scale i j dz dx zsa xsa vz 1 c one_pos hc

theorem delta_scaleS (t1 tauv taue tauev t0c tzc txc dzi dxi dz2i dx2i vz vref c : ℝ) (sz sx : Int) (hc : 0 < c) :
    delta (c * t1) (c * tauv) (c * taue) (c * tauev) (c * t0c) (c * tzc) (c * txc) dzi dxi dz2i dx2i (c * vz) (c * vref) sz sx
      = c * delta t1 tauv taue tauev t0c tzc txc dzi dxi dz2i dx2i vz vref sz sx := by
  simpa only [one_mul, mul_one, one_pow] using
    delta_scale t1 tauv taue tauev t0c tzc txc dzi dxi dz2i dx2i vz vref c 1 sz sx hc one_pos

theorem delta_scaleL (t1 tauv taue tauev t0c tzc txc dzi dxi dz2i dx2i vz vref c : ℝ) (sz sx : Int) (hc : 0 < c) :
    delta (c * t1) (c * tauv) (c * taue) (c * tauev) (c * t0c) tzc txc (dzi / c) (dxi / c) (dz2i / c ^ 2) (dx2i / c ^ 2)
        vz vref sz sx
      = c * delta t1 tauv taue tauev t0c tzc txc dzi dxi dz2i dx2i vz vref sz sx := by
  have := delta_scale t1 tauv taue tauev t0c tzc txc (dzi / c) (dxi / c) (dz2i / c ^ 2) (dx2i / c ^ 2) vz vref 1 c
    sz sx one_pos hc
  simpa only [one_mul, mul_div_cancel₀ _ hc.ne', mul_div_cancel₀ _ (pow_ne_zero 2 hc.ne')] using this

theorem planeWave2_scaleS (p : Par2 ℝ) (vref tv te tev c : ℝ) (hc : 0 < c) :
    planeWave2 (p.scaleS c) (c * vref) (c * tv) (c * te) (c * tev) = c * planeWave2 p vref tv te tev := by
  simpa only [mul_one] using planeWave2_scale (p.scaled_scaleS c) hc one_pos vref tv te tev

theorem planeWave2_scaleL (p : Par2 ℝ) (vref tv te tev c : ℝ) (hc : 0 < c) :
    planeWave2 (p.scaleL c) vref (c * tv) (c * te) (c * tev) = c * planeWave2 p vref tv te tev := by
  simpa only [one_mul] using planeWave2_scale (p.scaled_scaleL c hc.ne') one_pos hc vref tv te tev

theorem spherical2_scaleS (p : Par2 ℝ) (vref tv te tev c : ℝ) (i j : Nat) (d : Dir2) (hc : 0 < c) :
    spherical2 (p.scaleS c) (c * vref) (c * tv) (c * te) (c * tev) i j d = c * spherical2 p vref tv te tev i j d := by
  simpa only [mul_one] using spherical2_scale (p.scaled_scaleS c) hc one_pos vref tv te tev i j d

theorem spherical2_scaleL (p : Par2 ℝ) (vref tv te tev c : ℝ) (i j : Nat) (d : Dir2) (hc : 0 < c) :
    spherical2 (p.scaleL c) vref (c * tv) (c * te) (c * tev) i j d = c * spherical2 p vref tv te tev i j d := by
  simpa only [one_mul] using spherical2_scale (p.scaled_scaleL c hc.ne') one_pos hc vref tv te tev i j d

theorem candidates2_scaleS (p : Par2 ℝ) (slow' slow tt' tt : Grid2 ℝ) (c : ℝ) (hc : 0 < c) (i j : Nat) (d : Dir2)
    (hs : ∀ a b, slow'.get 0 a b = c * slow.get 0 a b) (ht : Rel2 c tt' tt) :
    candidates2 (p.scaleS c) slow' tt' i j d =
      (c * (candidates2 p slow tt i j d).1, c * (candidates2 p slow tt i j d).2.1, c * (candidates2 p slow tt i j d).2.2) := by
  simpa only [mul_one] using candidates2_scale (p.scaled_scaleS c) hc one_pos slow' slow tt' tt i j d hs (by rwa [mul_one])

theorem candidates2_scaleL (p : Par2 ℝ) (slow tt' tt : Grid2 ℝ) (c : ℝ) (hc : 0 < c) (i j : Nat) (d : Dir2)
    (ht : Rel2 c tt' tt) :
    candidates2 (p.scaleL c) slow tt' i j d =
      (c * (candidates2 p slow tt i j d).1, c * (candidates2 p slow tt i j d).2.1, c * (candidates2 p slow tt i j d).2.2) := by
  simpa only [one_mul] using candidates2_scale (p.scaled_scaleL c hc.ne') one_pos hc slow slow tt' tt i j d
    (fun _ _ => (one_mul _).symm) (by rwa [one_mul])

theorem sweep2d_scaleS (p : Par2 ℝ) (slow' slow : Grid2 ℝ) (grad : Bool) (s' s : St2 ℝ) (c : ℝ) (hc : 0 < c)
    (hs : ∀ a b, slow'.get 0 a b = c * slow.get 0 a b) (h : RelSt c s' s) :
    RelSt c (sweep2d (p.scaleS c) slow' grad s') (sweep2d p slow grad s) := by
  simpa only [mul_one] using sweep2d_scale (p.scaled_scaleS c) hc one_pos slow' slow grad s' s hs (by rwa [mul_one])

theorem sweep2d_scaleL (p : Par2 ℝ) (slow : Grid2 ℝ) (grad : Bool) (s' s : St2 ℝ) (c : ℝ) (hc : 0 < c)
    (h : RelSt c s' s) :
    RelSt c (sweep2d (p.scaleL c) slow grad s') (sweep2d p slow grad s) := by
  simpa only [one_mul] using sweep2d_scale (p.scaled_scaleL c hc.ne') one_pos hc slow slow grad s' s
    (fun _ _ => (one_mul _).symm) (by rwa [one_mul])

theorem C05_sweep_slowness (p : Par2 ℝ) (slow' slow : Grid2 ℝ) (grad : Bool) (s' s : St2 ℝ) (c : ℝ) (hc : 0 < c)
    (hs : ∀ a b, slow'.get 0 a b = c * slow.get 0 a b) (h : RelSt c s' s) (n : Nat) :
    RelSt c (iter (sweep2d (p.scaleS c) slow' grad) n s') (iter (sweep2d p slow grad) n s) :=
  iter_sim (RelSt c) (fun a b hab => sweep2d_scaleS p slow' slow grad a b c hc hs hab) n h

theorem C05_sweep_length (p : Par2 ℝ) (slow : Grid2 ℝ) (grad : Bool) (s' s : St2 ℝ) (c : ℝ) (hc : 0 < c)
    (h : RelSt c s' s) (n : Nat) :
    RelSt c (iter (sweep2d (p.scaleL c) slow grad) n s') (iter (sweep2d p slow grad) n s) :=
  iter_sim (RelSt c) (fun a b hab => sweep2d_scaleL p slow grad a b c hc hab) n h

theorem C05_times_scale (c : ℝ) (s' s : St2 ℝ) (h : RelSt c s' s) (i j : Nat) :
    s'.tt.get 0 i j = c * s.tt.get 0 i j := h.tt.val i j

theorem C05_grid_position_invariant (zsrc dz c : ℝ) (hc : c ≠ 0) : (c * zsrc) / (c * dz) = zsrc / dz :=
  mul_div_mul_left zsrc dz hc

theorem C05_scaleL_is_recomputed (p : Par2 ℝ) (c : ℝ) (hc : c ≠ 0) (h1 : p.dzi = 1 / p.dz) (h2 : p.dz2i = p.dzi / p.dz) :
    (p.scaleL c).dzi = 1 / (p.scaleL c).dz ∧ (p.scaleL c).dz2i = (p.scaleL c).dzi / (p.scaleL c).dz := by
  unfold Par2.scaleL
  simp only
  rw [h2, h1]
  constructor <;> ring

/-- non-vacuity: two related one-node states -/
example : RelSt 2 ⟨#[#[(6 : ℝ)]], #[]⟩ ⟨#[#[(3 : ℝ)]], #[]⟩ := by
  refine ⟨⟨rfl, fun i => ?_, fun i j => ?_⟩, rfl⟩
  · cases i <;> rfl
  · -- out-of-range reads return the default 0 on both sides
    rcases i with _ | i
    · rcases j with _ | j
      · show (6 : ℝ) = 2 * 3; norm_num
      · show (0 : ℝ) = 2 * 0; rw [mul_zero]
    · show (0 : ℝ) = 2 * 0; rw [mul_zero]

end Fteik
