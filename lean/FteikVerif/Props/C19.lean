/-!
# C19 — the compiled build computes what the Python source says

Translation validation is done dynamically (harness/props/c19.py).  The only Lean content is the
integer-width argument: every index expression of the kernels is shown (Generated/Sites.lean,
regenerated from the source) to lie in `[0, extent)`; for extents that fit the declared 32-bit
signed type the index therefore fits as well.
-/
namespace Fteik

theorem C19_index_fits_i4 (e ext : Int) (h : 0 ≤ e ∧ e < ext) (hext : ext ≤ 2 ^ 31 - 1) :
    -(2 : Int) ^ 31 ≤ e ∧ e ≤ 2 ^ 31 - 1 := by
  omega

end Fteik
