import FteikVerif.Props.C14
/-!
# C09 — traveltime (apparent-velocity) interpolation

Exact-arithmetic theorems about the models of `_vinterp2d` and `_vinterp3d` (each name below has its `…3d…` twin), for
strictly increasing axes with ≥ 2 nodes and every query point of the closed hull:

* `C09_vinterp2d_fill` (every scalar type): the fill value as soon as the test `x[0] <= xq <= x[-1]` fails on one axis
  (outside the hull; a NaN coordinate fails every comparison);
* `C09_vinterp2d_source_cell` (every scalar type), `C09_vinterp2d_at_source`: `vzero · distance` when query and source
  share a cell (equal `searchsorted` on every axis), in particular `0` at the source;
* `C09_vinterp2d_zero_corner`: `vzero · distance` fallback when a corner of the enclosing cell has time 0 (the dummy
  time of a synthesised corner is 1);
* `C09_vinterp2d_weights`: otherwise `distance / Σ W_ab · (d_ab / t_ab)` with the separable weights of C14
  (`W ≥ 0`, `Σ W = 1`, synthesised neighbours carry weight 0: `AxisFacts.w0_nonneg`, `w_sum`, `w_lower`): distance
  divided by a convex combination of the corners' apparent velocities `d_ab / t_ab`;
* `C09_vinterp2d_homog_exact`: hence `s · distance` if every corner that carries a real node holds `t_ab = s · d_ab`
  with `s > 0` and lies off the source (`d_ab > 0`), the query outside the source's cell;
* `C09_vinterp2d_at_node`: and the stored node value at a node outside the source's cell all of whose enclosing-cell
  corner times are non-zero.

Not proved: the bracket `distance / max ≤ result ≤ distance / min` of the property text as an inequality of its own
(it follows from the weights form with `W ≥ 0`, `Σ W = 1`).

`vinterp2d_inside` states the kernel inside the hull once: the fallback `vzero · distance` (the two cases that lead to
it - same cell, a zero corner time - fall together by `ite_fallback`), else the distance over a sum that is the `cellForm2` of
`_interp2d`, taken of the ratios `d/t`, hence a nest of one `lerp` per axis (`cellForm2_eq_lerp`).  The weights theorems
write the nest out (`lerp_lerp`); `homog_exact` and `at_node` apply to the nest itself the one-axis lemmas of
`Proofs/InterpLemmas.lean` (`lerp_const`, `lerp_node`).
-/
namespace Fteik

section generic
variable {α : Type} [Scalar α]

theorem C09_vinterp2d_fill (x y : Array α) (v : Grid2 α) (xq yq xs ys vz fval : α)
    (h : inside x xq = false ∨ inside y yq = false) :
    vinterp2d x y v xq yq xs ys vz fval = fval := by
  unfold vinterp2d
  rcases h with h | h <;> simp [h]

theorem C09_vinterp3d_fill (x y z : Array α) (v : Grid3 α) (xq yq zq xs ys zs vz fval : α)
    (h : inside x xq = false ∨ inside y yq = false ∨ inside z zq = false) :
    vinterp3d x y z v xq yq zq xs ys zs vz fval = fval := by
  unfold vinterp3d
  rcases h with h | h | h <;> simp [h]

theorem C09_vinterp2d_source_cell (x y : Array α) (v : Grid2 α) (xq yq xs ys vz fval : α)
    (hin : inside x xq = true ∧ inside y yq = true)
    (hx : searchsortedRight x xs = searchsortedRight x xq)
    (hy : searchsortedRight y ys = searchsortedRight y yq) :
    vinterp2d x y v xq yq xs ys vz fval = vz * dist2d xs ys xq yq := by
  unfold vinterp2d
  simp [hin.1, hin.2, hx, hy]

theorem C09_vinterp3d_source_cell (x y z : Array α) (v : Grid3 α) (xq yq zq xs ys zs vz fval : α)
    (hin : inside x xq = true ∧ inside y yq = true ∧ inside z zq = true)
    (hx : searchsortedRight x xs = searchsortedRight x xq)
    (hy : searchsortedRight y ys = searchsortedRight y yq)
    (hz : searchsortedRight z zs = searchsortedRight z zq) :
    vinterp3d x y z v xq yq zq xs ys zs vz fval = vz * dist3d xs ys zs xq yq zq := by
  unfold vinterp3d
  simp [hin.1, hin.2.1, hin.2.2, hx, hy, hz]

end generic

theorem C09_vinterp2d_at_source (x y : Array ℝ) (v : Grid2 ℝ) (xs ys vz fval : ℝ)
    (hin : inside x xs = true ∧ inside y ys = true) :
    vinterp2d x y v xs ys xs ys vz fval = 0 := by
  rw [C09_vinterp2d_source_cell x y v xs ys xs ys vz fval hin rfl rfl]
  simp [dist2d]

theorem C09_vinterp3d_at_source (x y z : Array ℝ) (v : Grid3 ℝ) (xs ys zs vz fval : ℝ)
    (hin : inside x xs = true ∧ inside y ys = true ∧ inside z zs = true) :
    vinterp3d x y z v xs ys zs xs ys zs vz fval = 0 := by
  rw [C09_vinterp3d_source_cell x y z v xs ys zs xs ys zs vz fval hin rfl rfl rfl]
  simp [dist3d]

/-- the source compares `searchsorted(..) - 1` as signed integers -/
theorem pred_beq (m n : Nat) : (Int.ofNat m - 1 == Int.ofNat n - 1) = true ↔ m = n := by
  simp only [beq_iff_eq, Int.ofNat_eq_natCast]; omega

theorem bnot_eq_true (b : Bool) : (!b) = true ↔ ¬ b = true := by cases b <;> simp

/-- both early exits return the same fallback -/
theorem ite_fallback {P Q : Prop} [Decidable P] [Decidable Q] (F G : ℝ) :
    (if P then F else if ¬ Q then F else G) = if ¬ P ∧ Q then G else F := by
  by_cases hP : P <;> by_cases hQ : Q <;> simp [hP, hQ]

/-! ### homogeneous node times at one corner: `t = s · d` where the node is real, the dummy `1` otherwise -/

theorem ratio_homog {d t s : ℝ} (h : t = s * d ∧ 0 < d) : d / t = 1 / s := by
  rw [h.1, div_mul_eq_div_div_swap, div_self h.2.ne']

theorem homog_ne_zero {d t s : ℝ} (hs : 0 < s) (h : t = s * d ∧ 0 < d) : t ≠ 0 :=
  h.1 ▸ (mul_pos hs h.2).ne'

/-- `t` is a variable and `ht` is `rfl` at the calls: stated of the `if` itself, the lemma would make Lean unfold the
corner of `vcorners2/3` it is applied to twice (to match `h`, and again to match the conclusion), and that is dear -/
theorem dummy_ne_zero {e : Bool} {t V d s : ℝ} (hs : 0 < s) (h : e = false → t = s * d ∧ 0 < d)
    (ht : t = if e = true then 1 else V) : t ≠ 0 := by
  cases e
  exacts [homog_ne_zero hs (h rfl), ht ▸ one_ne_zero]

/-- the distances and times at the four corners from which the 2-D model forms its "apparent velocity" terms `d / t`,
with the dummies made explicit -/
structure VCorners where
  d11 : ℝ
  d21 : ℝ
  d12 : ℝ
  d22 : ℝ
  v11 : ℝ
  v21 : ℝ
  v12 : ℝ
  v22 : ℝ

/-- the four boundary cases of `_vinterp2d` at once: a neighbour synthesised beyond the last node has
`(d, t) = (0, 1)` -/
noncomputable def vcorners2 (x y : Array ℝ) (v : Grid2 ℝ) (xq yq xs ys : ℝ) : VCorners :=
  let a := axisCell x (v.size - 1) xq
  let b := axisCell y ((v.getD 0 #[]).size - 1) yq
  { d11 := dist2d xs ys a.x1 b.x1
    d21 := if a.edge then 0 else dist2d xs ys a.x2 b.x1
    d12 := if b.edge then 0 else dist2d xs ys a.x1 b.x2
    d22 := if a.edge || b.edge then 0 else dist2d xs ys a.x2 b.x2
    v11 := v.get 0 a.i1 b.i1
    v21 := if a.edge then 1 else v.get 0 (a.i1 + 1) b.i1
    v12 := if b.edge then 1 else v.get 0 a.i1 (b.i1 + 1)
    v22 := if a.edge || b.edge then 1 else v.get 0 (a.i1 + 1) (b.i1 + 1) }

theorem vinterp2d_inside (x y : Array ℝ) (v : Grid2 ℝ) (xq yq xs ys vz fval : ℝ)
    (hinx : inside x xq = true) (hiny : inside y yq = true) :
    let a := axisCell x (v.size - 1) xq
    let b := axisCell y ((v.getD 0 #[]).size - 1) yq
    let c := vcorners2 x y v xq yq xs ys
    vinterp2d x y v xq yq xs ys vz fval =
      if ¬ (searchsortedRight x xs = searchsortedRight x xq ∧ searchsortedRight y ys = searchsortedRight y yq)
          ∧ (c.v11 ≠ 0 ∧ c.v21 ≠ 0 ∧ c.v12 ≠ 0 ∧ c.v22 ≠ 0) then
        dist2d xs ys xq yq / cellForm2 a b xq yq (c.d11 / c.v11) (c.d21 / c.v21) (c.d12 / c.v12) (c.d22 / c.v22)
      else vz * dist2d xs ys xq yq := by
  intro a b c
  -- unfold both sides and turn the Boolean tests into propositions; what is left is the order of the tests
  simp only [vinterp2d, hinx, hiny, Bool.and_self, Bool.not_true, Bool.false_eq_true, if_false, real_abs,
    real_zero, real_one, c, vcorners2, cellForm2, a, b, bnot_eq_true, Bool.and_eq_true, pred_beq, real_truthy,
    and_assoc]
  exact ite_fallback _ _

theorem C09_vinterp2d_weights (x y : Array ℝ) (v : Grid2 ℝ) (xq yq xs ys vz fval : ℝ)
    (hx : StrictAxis x) (hy : StrictAxis y)
    (hsx : x.size = (v.size - 1) + 1) (hsy : y.size = ((v.getD 0 #[]).size - 1) + 1)
    (hinx : inside x xq = true) (hiny : inside y yq = true)
    (hcell : ¬ (searchsortedRight x xs = searchsortedRight x xq ∧ searchsortedRight y ys = searchsortedRight y yq))
    (hnz : let c := vcorners2 x y v xq yq xs ys; c.v11 ≠ 0 ∧ c.v21 ≠ 0 ∧ c.v12 ≠ 0 ∧ c.v22 ≠ 0) :
    let a := axisCell x (v.size - 1) xq
    let b := axisCell y ((v.getD 0 #[]).size - 1) yq
    let c := vcorners2 x y v xq yq xs ys
    vinterp2d x y v xq yq xs ys vz fval =
      dist2d xs ys xq yq /
        (a.w0 xq * b.w0 yq * (c.d11 / c.v11) + a.w1 xq * b.w0 yq * (c.d21 / c.v21)
          + a.w0 xq * b.w1 yq * (c.d12 / c.v12) + a.w1 xq * b.w1 yq * (c.d22 / c.v22)) := by
  rw [vinterp2d_inside x y v xq yq xs ys vz fval hinx hiny, if_pos ⟨hcell, hnz⟩,
    cellForm2_eq_lerp (axisCell_facts x _ xq hx hsx hinx) (axisCell_facts y _ yq hy hsy hiny), AxisCell.lerp_lerp]

theorem C09_vinterp2d_zero_corner (x y : Array ℝ) (v : Grid2 ℝ) (xq yq xs ys vz fval : ℝ)
    (hinx : inside x xq = true) (hiny : inside y yq = true)
    (hz : let c := vcorners2 x y v xq yq xs ys; c.v11 = 0 ∨ c.v21 = 0 ∨ c.v12 = 0 ∨ c.v22 = 0) :
    vinterp2d x y v xq yq xs ys vz fval = vz * dist2d xs ys xq yq := by
  rw [vinterp2d_inside x y v xq yq xs ys vz fval hinx hiny, if_neg]
  -- the second conjunct denies every alternative of `hz`
  exact fun h => by simp only [h.2, or_self] at hz

theorem C09_vinterp2d_homog_exact (x y : Array ℝ) (v : Grid2 ℝ) (xq yq xs ys vz fval s : ℝ)
    (hx : StrictAxis x) (hy : StrictAxis y)
    (hsx : x.size = (v.size - 1) + 1) (hsy : y.size = ((v.getD 0 #[]).size - 1) + 1)
    (hinx : inside x xq = true) (hiny : inside y yq = true) (hs : 0 < s)
    (hcell : ¬ (searchsortedRight x xs = searchsortedRight x xq ∧ searchsortedRight y ys = searchsortedRight y yq))
    (hom : let a := axisCell x (v.size - 1) xq
           let b := axisCell y ((v.getD 0 #[]).size - 1) yq
           let c := vcorners2 x y v xq yq xs ys
           (c.v11 = s * c.d11 ∧ 0 < c.d11) ∧ (a.edge = false → c.v21 = s * c.d21 ∧ 0 < c.d21)
           ∧ (b.edge = false → c.v12 = s * c.d12 ∧ 0 < c.d12)
           ∧ (a.edge = false → b.edge = false → c.v22 = s * c.d22 ∧ 0 < c.d22)) :
    vinterp2d x y v xq yq xs ys vz fval = s * dist2d xs ys xq yq := by
  obtain ⟨h11, h21, h12, h22⟩ := hom
  have fa := axisCell_facts x _ xq hx hsx hinx
  have fb := axisCell_facts y _ yq hy hsy hiny
  -- no corner time is zero, so the result is the distance over a nest of one `lerp` per axis, and every corner that
  -- counts in it has apparent velocity `1 / s`
  rw [vinterp2d_inside x y v xq yq xs ys vz fval hinx hiny,
    if_pos ⟨hcell, homog_ne_zero hs h11, dummy_ne_zero hs h21 rfl, dummy_ne_zero hs h12 rfl,
      dummy_ne_zero hs (fun h => h22 (Bool.or_eq_false_iff.mp h).1 (Bool.or_eq_false_iff.mp h).2) rfl⟩,
    cellForm2_eq_lerp fa fb, fa.lerp_const (fb.lerp_const (ratio_homog h11) fun eb => ratio_homog (h12 eb))
      fun ea => fb.lerp_const (ratio_homog (h21 ea)) fun eb => ratio_homog (h22 ea eb)]
  rw [div_div_eq_mul_div, div_one, mul_comm]

theorem C09_vinterp2d_at_node (x y : Array ℝ) (v : Grid2 ℝ) (xs ys vz fval : ℝ) (i j : Nat)
    (hx : StrictAxis x) (hy : StrictAxis y)
    (hsx : x.size = (v.size - 1) + 1) (hsy : y.size = ((v.getD 0 #[]).size - 1) + 1)
    (hi : i < x.size) (hj : j < y.size)
    (hinx : inside x (get1 x i) = true) (hiny : inside y (get1 y j) = true)
    (hcell : ¬ (searchsortedRight x xs = searchsortedRight x (get1 x i)
                ∧ searchsortedRight y ys = searchsortedRight y (get1 y j)))
    (hnz : let c := vcorners2 x y v (get1 x i) (get1 y j) xs ys;
           c.v11 ≠ 0 ∧ c.v21 ≠ 0 ∧ c.v12 ≠ 0 ∧ c.v22 ≠ 0)
    (hd : dist2d xs ys (get1 x i) (get1 y j) ≠ 0) :
    vinterp2d x y v (get1 x i) (get1 y j) xs ys vz fval = v.get 0 i j := by
  obtain ⟨a1, a2, a3⟩ := axisCell_at_node x _ i hx hsx (Nat.le_of_lt_add_one (hsx ▸ hi))
  obtain ⟨b1, b2, b3⟩ := axisCell_at_node y _ j hy hsy (Nat.le_of_lt_add_one (hsy ▸ hj))
  -- every `lerp` of the nest returns its lower value: what is left is the lower corner, which is the node itself
  rw [vinterp2d_inside x y v _ _ xs ys vz fval hinx hiny, if_pos ⟨hcell, hnz⟩,
    cellForm2_eq_lerp (axisCell_facts x _ _ hx hsx hinx) (axisCell_facts y _ _ hy hsy hiny),
    AxisCell.lerp_node a2 a3, AxisCell.lerp_node b2 b3]
  dsimp only [vcorners2, axisCell_x1]
  rw [a1, b1]
  exact div_div_cancel₀ hd

/-! ### `_vinterp3d`: its eight boundary cases at once, a corner synthesised on a far face has `(d, t) = (0, 1)` -/

structure VCorners3 where
  d111 : ℝ
  d211 : ℝ
  d121 : ℝ
  d221 : ℝ
  d112 : ℝ
  d212 : ℝ
  d122 : ℝ
  d222 : ℝ
  v111 : ℝ
  v211 : ℝ
  v121 : ℝ
  v221 : ℝ
  v112 : ℝ
  v212 : ℝ
  v122 : ℝ
  v222 : ℝ

noncomputable def vcorners3 (x y z : Array ℝ) (v : Grid3 ℝ) (xq yq zq xs ys zs : ℝ) : VCorners3 :=
  let a := axisCell x (v.size - 1) xq
  let b := axisCell y ((v.getD 0 #[]).size - 1) yq
  let c := axisCell z (((v.getD 0 #[]).getD 0 #[]).size - 1) zq
  let d := fun (e : Bool) (p q r : ℝ) => if e then 0 else dist3d xs ys zs p q r
  let g := fun (e : Bool) (i j k : Nat) => if e then 1 else v.get 0 i j k
  { d111 := dist3d xs ys zs a.x1 b.x1 c.x1
    d211 := d a.edge a.x2 b.x1 c.x1
    d121 := d b.edge a.x1 b.x2 c.x1
    d221 := d (a.edge || b.edge) a.x2 b.x2 c.x1
    d112 := d c.edge a.x1 b.x1 c.x2
    d212 := d (a.edge || c.edge) a.x2 b.x1 c.x2
    d122 := d (b.edge || c.edge) a.x1 b.x2 c.x2
    d222 := d (a.edge || b.edge || c.edge) a.x2 b.x2 c.x2
    v111 := v.get 0 a.i1 b.i1 c.i1
    v211 := g a.edge (a.i1 + 1) b.i1 c.i1
    v121 := g b.edge a.i1 (b.i1 + 1) c.i1
    v221 := g (a.edge || b.edge) (a.i1 + 1) (b.i1 + 1) c.i1
    v112 := g c.edge a.i1 b.i1 (c.i1 + 1)
    v212 := g (a.edge || c.edge) (a.i1 + 1) b.i1 (c.i1 + 1)
    v122 := g (b.edge || c.edge) a.i1 (b.i1 + 1) (c.i1 + 1)
    v222 := g (a.edge || b.edge || c.edge) (a.i1 + 1) (b.i1 + 1) (c.i1 + 1) }

theorem vinterp3d_inside (x y z : Array ℝ) (v : Grid3 ℝ) (xq yq zq xs ys zs vz fval : ℝ)
    (hinx : inside x xq = true) (hiny : inside y yq = true) (hinz : inside z zq = true) :
    let a := axisCell x (v.size - 1) xq
    let b := axisCell y ((v.getD 0 #[]).size - 1) yq
    let c := axisCell z (((v.getD 0 #[]).getD 0 #[]).size - 1) zq
    let k := vcorners3 x y z v xq yq zq xs ys zs
    vinterp3d x y z v xq yq zq xs ys zs vz fval =
      if ¬ (searchsortedRight x xs = searchsortedRight x xq ∧ searchsortedRight y ys = searchsortedRight y yq
              ∧ searchsortedRight z zs = searchsortedRight z zq)
          ∧ (k.v111 ≠ 0 ∧ k.v211 ≠ 0 ∧ k.v121 ≠ 0 ∧ k.v221 ≠ 0 ∧ k.v112 ≠ 0 ∧ k.v212 ≠ 0 ∧ k.v122 ≠ 0
              ∧ k.v222 ≠ 0) then
        dist3d xs ys zs xq yq zq / cellForm3 a b c xq yq zq (k.d111 / k.v111) (k.d211 / k.v211) (k.d121 / k.v121)
          (k.d221 / k.v221) (k.d112 / k.v112) (k.d212 / k.v212) (k.d122 / k.v122) (k.d222 / k.v222)
      else vz * dist3d xs ys zs xq yq zq := by
  intro a b c k
  simp only [vinterp3d, hinx, hiny, hinz, Bool.and_self, Bool.not_true, Bool.false_eq_true, if_false, real_abs,
    real_zero, real_one, k, vcorners3, cellForm3, a, b, c, bnot_eq_true, Bool.and_eq_true, pred_beq, real_truthy,
    and_assoc]
  exact ite_fallback _ _

theorem C09_vinterp3d_weights (x y z : Array ℝ) (v : Grid3 ℝ) (xq yq zq xs ys zs vz fval : ℝ)
    (hx : StrictAxis x) (hy : StrictAxis y) (hz : StrictAxis z)
    (hsx : x.size = (v.size - 1) + 1) (hsy : y.size = ((v.getD 0 #[]).size - 1) + 1)
    (hsz : z.size = (((v.getD 0 #[]).getD 0 #[]).size - 1) + 1)
    (hinx : inside x xq = true) (hiny : inside y yq = true) (hinz : inside z zq = true)
    (hcell : ¬ (searchsortedRight x xs = searchsortedRight x xq ∧ searchsortedRight y ys = searchsortedRight y yq
                ∧ searchsortedRight z zs = searchsortedRight z zq))
    (hnz : let c := vcorners3 x y z v xq yq zq xs ys zs
           c.v111 ≠ 0 ∧ c.v211 ≠ 0 ∧ c.v121 ≠ 0 ∧ c.v221 ≠ 0 ∧ c.v112 ≠ 0 ∧ c.v212 ≠ 0 ∧ c.v122 ≠ 0 ∧ c.v222 ≠ 0) :
    let a := axisCell x (v.size - 1) xq
    let b := axisCell y ((v.getD 0 #[]).size - 1) yq
    let c := axisCell z (((v.getD 0 #[]).getD 0 #[]).size - 1) zq
    let k := vcorners3 x y z v xq yq zq xs ys zs
    vinterp3d x y z v xq yq zq xs ys zs vz fval =
      dist3d xs ys zs xq yq zq /
        (a.w0 xq * b.w0 yq * c.w0 zq * (k.d111 / k.v111) + a.w1 xq * b.w0 yq * c.w0 zq * (k.d211 / k.v211)
          + a.w0 xq * b.w1 yq * c.w0 zq * (k.d121 / k.v121) + a.w1 xq * b.w1 yq * c.w0 zq * (k.d221 / k.v221)
          + a.w0 xq * b.w0 yq * c.w1 zq * (k.d112 / k.v112) + a.w1 xq * b.w0 yq * c.w1 zq * (k.d212 / k.v212)
          + a.w0 xq * b.w1 yq * c.w1 zq * (k.d122 / k.v122) + a.w1 xq * b.w1 yq * c.w1 zq * (k.d222 / k.v222)) := by
  rw [vinterp3d_inside x y z v xq yq zq xs ys zs vz fval hinx hiny hinz, if_pos ⟨hcell, hnz⟩,
    cellForm3_eq_lerp (axisCell_facts x _ xq hx hsx hinx) (axisCell_facts y _ yq hy hsy hiny)
      (axisCell_facts z _ zq hz hsz hinz), AxisCell.lerp_lerp_lerp]

theorem C09_vinterp3d_zero_corner (x y z : Array ℝ) (v : Grid3 ℝ) (xq yq zq xs ys zs vz fval : ℝ)
    (hinx : inside x xq = true) (hiny : inside y yq = true) (hinz : inside z zq = true)
    (hz : let c := vcorners3 x y z v xq yq zq xs ys zs
          c.v111 = 0 ∨ c.v211 = 0 ∨ c.v121 = 0 ∨ c.v221 = 0 ∨ c.v112 = 0 ∨ c.v212 = 0 ∨ c.v122 = 0 ∨ c.v222 = 0) :
    vinterp3d x y z v xq yq zq xs ys zs vz fval = vz * dist3d xs ys zs xq yq zq := by
  rw [vinterp3d_inside x y z v xq yq zq xs ys zs vz fval hinx hiny hinz, if_neg]
  exact fun h => by simp only [h.2, or_self] at hz

theorem C09_vinterp3d_homog_exact (x y z : Array ℝ) (v : Grid3 ℝ) (xq yq zq xs ys zs vz fval s : ℝ)
    (hx : StrictAxis x) (hy : StrictAxis y) (hz : StrictAxis z)
    (hsx : x.size = (v.size - 1) + 1) (hsy : y.size = ((v.getD 0 #[]).size - 1) + 1)
    (hsz : z.size = (((v.getD 0 #[]).getD 0 #[]).size - 1) + 1)
    (hinx : inside x xq = true) (hiny : inside y yq = true) (hinz : inside z zq = true) (hs : 0 < s)
    (hcell : ¬ (searchsortedRight x xs = searchsortedRight x xq ∧ searchsortedRight y ys = searchsortedRight y yq
                ∧ searchsortedRight z zs = searchsortedRight z zq))
    (hom : let a := axisCell x (v.size - 1) xq
           let b := axisCell y ((v.getD 0 #[]).size - 1) yq
           let c := axisCell z (((v.getD 0 #[]).getD 0 #[]).size - 1) zq
           let k := vcorners3 x y z v xq yq zq xs ys zs
           (¬ (False) → k.v111 = s * k.d111 ∧ 0 < k.d111) ∧ (¬ (a.edge = true) → k.v211 = s * k.d211 ∧ 0 < k.d211) ∧ (¬ (b.edge = true) → k.v121 = s * k.d121 ∧ 0 < k.d121) ∧ (¬ (a.edge = true ∨ b.edge = true) → k.v221 = s * k.d221 ∧ 0 < k.d221) ∧ (¬ (c.edge = true) → k.v112 = s * k.d112 ∧ 0 < k.d112) ∧ (¬ (a.edge = true ∨ c.edge = true) → k.v212 = s * k.d212 ∧ 0 < k.d212) ∧ (¬ (b.edge = true ∨ c.edge = true) → k.v122 = s * k.d122 ∧ 0 < k.d122) ∧ (¬ (a.edge = true ∨ b.edge = true ∨ c.edge = true) → k.v222 = s * k.d222 ∧ 0 < k.d222)) :
    vinterp3d x y z v xq yq zq xs ys zs vz fval = s * dist3d xs ys zs xq yq zq := by
  -- the conditions of `hom` in the form the model tests them: `(ea || eb) = false`
  simp only [← Bool.or_eq_true, ← Bool.or_assoc, Bool.not_eq_true, not_false_eq_true, forall_const] at hom
  obtain ⟨h111, h211, h121, h221, h112, h212, h122, h222⟩ := hom
  have fa := axisCell_facts x _ xq hx hsx hinx
  have fb := axisCell_facts y _ yq hy hsy hiny
  have fc := axisCell_facts z _ zq hz hsz hinz
  rw [vinterp3d_inside x y z v xq yq zq xs ys zs vz fval hinx hiny hinz,
    if_pos ⟨hcell, homog_ne_zero hs h111, dummy_ne_zero hs h211 rfl, dummy_ne_zero hs h121 rfl,
      dummy_ne_zero hs h221 rfl, dummy_ne_zero hs h112 rfl, dummy_ne_zero hs h212 rfl,
      dummy_ne_zero hs h122 rfl, dummy_ne_zero hs h222 rfl⟩,
    cellForm3_eq_lerp fa fb fc, fa.lerp_const
      (fb.lerp_const (fc.lerp_const (ratio_homog h111) fun ec => ratio_homog (h112 ec))
        fun eb => fc.lerp_const (ratio_homog (h121 eb)) fun ec => ratio_homog (h122 (bor_false eb ec)))
      fun ea => fb.lerp_const
        (fc.lerp_const (ratio_homog (h211 ea)) fun ec => ratio_homog (h212 (bor_false ea ec)))
        fun eb => fc.lerp_const (ratio_homog (h221 (bor_false ea eb)))
          fun ec => ratio_homog (h222 (bor_false (bor_false ea eb) ec))]
  rw [div_div_eq_mul_div, div_one, mul_comm]

theorem C09_vinterp3d_at_node (x y z : Array ℝ) (v : Grid3 ℝ) (xs ys zs vz fval : ℝ) (i j k : Nat)
    (hx : StrictAxis x) (hy : StrictAxis y) (hz : StrictAxis z)
    (hsx : x.size = (v.size - 1) + 1) (hsy : y.size = ((v.getD 0 #[]).size - 1) + 1)
    (hsz : z.size = (((v.getD 0 #[]).getD 0 #[]).size - 1) + 1)
    (hi : i < x.size) (hj : j < y.size) (hk : k < z.size)
    (hcell : ¬ (searchsortedRight x xs = searchsortedRight x (get1 x i)
                ∧ searchsortedRight y ys = searchsortedRight y (get1 y j)
                ∧ searchsortedRight z zs = searchsortedRight z (get1 z k)))
    (hnz : let c := vcorners3 x y z v (get1 x i) (get1 y j) (get1 z k) xs ys zs
           c.v111 ≠ 0 ∧ c.v211 ≠ 0 ∧ c.v121 ≠ 0 ∧ c.v221 ≠ 0 ∧ c.v112 ≠ 0 ∧ c.v212 ≠ 0 ∧ c.v122 ≠ 0 ∧ c.v222 ≠ 0)
    (hd : dist3d xs ys zs (get1 x i) (get1 y j) (get1 z k) ≠ 0) :
    vinterp3d x y z v (get1 x i) (get1 y j) (get1 z k) xs ys zs vz fval = v.get 0 i j k := by
  have hinx := inside_node x i hx hi
  have hiny := inside_node y j hy hj
  have hinz := inside_node z k hz hk
  obtain ⟨a1, a2, a3⟩ := axisCell_at_node x _ i hx hsx (Nat.le_of_lt_add_one (hsx ▸ hi))
  obtain ⟨b1, b2, b3⟩ := axisCell_at_node y _ j hy hsy (Nat.le_of_lt_add_one (hsy ▸ hj))
  obtain ⟨c1, c2, c3⟩ := axisCell_at_node z _ k hz hsz (Nat.le_of_lt_add_one (hsz ▸ hk))
  rw [vinterp3d_inside x y z v _ _ _ xs ys zs vz fval hinx hiny hinz, if_pos ⟨hcell, hnz⟩,
    cellForm3_eq_lerp (axisCell_facts x _ _ hx hsx hinx) (axisCell_facts y _ _ hy hsy hiny)
      (axisCell_facts z _ _ hz hsz hinz),
    AxisCell.lerp_node a2 a3, AxisCell.lerp_node b2 b3, AxisCell.lerp_node c2 c3]
  dsimp only [vcorners3, axisCell_x1]
  rw [a1, b1, c1]
  exact div_div_cancel₀ hd

end Fteik
