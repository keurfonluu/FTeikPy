import FteikVerif.Model.Interp
/-!
# `get`/`set` laws of the nested-array grids

`Grid2.set g i j v` is `setIfInBounds` on row `i` under `Array.modify`, and `Grid3.set g i j k v` is `Grid2.set` on
plane `i` under `Array.modify`: a fact about stores is proved for `modify` and lifted once or twice.  Reads and writes
out of range are total (default value, no-op), so most laws need no bounds hypothesis; those that do take
`Grid2.InB` / `Grid3.InB`.  At the end, the facts about the axis lookup (`searchsorted`, `axisCell`) that hold for
every scalar type, for the files that must stay free of Mathlib as well as for the proofs over ℝ.
-/
namespace Fteik

theorem getD_setIfInBounds {β : Type} (r : Array β) (d : β) (j j' : Nat) (v : β) :
    (r.setIfInBounds j v).getD j' d = if j = j' ∧ j < r.size then v else r.getD j' d := by
  simp only [Array.getD_eq_getD_getElem?, Array.getElem?_setIfInBounds]
  by_cases h : j = j'
  · subst h
    by_cases h2 : j < r.size
    · simp [h2]
    · simp [h2]
  · simp [h]

theorem getD_modify {β : Type} (g : Array β) (d : β) (i i' : Nat) (f : β → β) :
    (g.modify i f).getD i' d = if i = i' ∧ i < g.size then f (g.getD i d) else g.getD i' d := by
  simp only [Array.getD_eq_getD_getElem?, Array.getElem?_modify]
  by_cases h : i = i'
  · subst h
    by_cases h2 : i < g.size
    · simp [h2]
    · simp [h2]
  · simp [h]

theorem getD_modify_inv {β γ : Type} (m : β → γ) (g : Array β) (d : β) (i k : Nat) (f : β → β) (h : ∀ x, m (f x) = m x) :
    m ((g.modify i f).getD k d) = m (g.getD k d) := by
  rw [getD_modify]
  by_cases hk : i = k ∧ i < g.size
  · rw [if_pos hk, h, hk.1]
  · rw [if_neg hk]

theorem modify_modify {β : Type} (a : Array β) (i : Nat) (f g : β → β) :
    (a.modify i f).modify i g = a.modify i fun x => g (f x) := by
  apply Array.ext
  · simp
  · intro k h1 h2
    simp only [Array.getElem_modify]
    split <;> rfl

theorem modify_eq_self {β : Type} (a : Array β) (d : β) (i : Nat) (f : β → β) (h : i < a.size → f (a.getD i d) = a.getD i d) :
    a.modify i f = a := by
  apply Array.ext
  · simp
  · intro k h1 h2
    simp only [Array.getElem_modify]
    split
    · rename_i hk
      subst hk
      simpa [Array.getD_eq_getD_getElem?, h2] using h h2
    · rfl

theorem setIfInBounds_getD_self {β : Type} (r : Array β) (j : Nat) (d : β) : r.setIfInBounds j (r.getD j d) = r := by
  by_cases h : j < r.size
  · simp [Array.setIfInBounds, Array.getD, h]
  · exact Array.setIfInBounds_eq_of_size_le (Nat.le_of_not_lt h)

/-- a read inside the array is the plain subscript (outside, `get1` is total and returns `zero`) -/
theorem get1_eq_getElem {α : Type} [Scalar α] (a : Array α) {i : Nat} (h : i < a.size) : get1 a i = a[i] :=
  dif_pos h

theorem get1_set_self {α : Type} [Scalar α] {td : Array α} {j : Nat} {v : α} (h : j < td.size) : get1 (td.setIfInBounds j v) j = v := by
  rw [get1_eq_getElem _ (by rwa [Array.size_setIfInBounds]), Array.getElem_setIfInBounds_self]

theorem ite_pair_eta {β γ : Type} (c : Prop) [Decidable c] (a : β) (b : γ) (x : β × γ) :
    (if c then (a, b) else x) = (if c then a else x.1, if c then b else x.2) := by
  split <;> rfl

theorem ite_pair {β γ : Type} (c : Prop) [Decidable c] (a a' : β) (b b' : γ) :
    (if c then (a, b) else (a', b')) = (if c then a else a', if c then b else b') :=
  ite_pair_eta c a b (a', b')

namespace Grid2
variable {β : Type}

theorem get_set (g : Grid2 β) (d : β) (i j i' j' : Nat) (v : β) :
    (g.set i j v).get d i' j' =
      if i = i' ∧ j = j' ∧ i < g.size ∧ j < (g.getD i #[]).size then v else g.get d i' j' := by
  unfold Grid2.set Grid2.get
  rw [getD_modify]
  by_cases h : i = i' ∧ i < g.size
  · obtain ⟨h1, h2⟩ := h
    subst h1
    simp only [h2, and_self, true_and, if_true, getD_setIfInBounds]
  · rw [if_neg h, if_neg]; intro hh; exact h ⟨hh.1, hh.2.2.1⟩

theorem size_set (g : Grid2 β) (i j : Nat) (v : β) : (g.set i j v).size = g.size := by
  simp [Grid2.set]

theorem row_set (g : Grid2 β) (i j k : Nat) (v : β) : ((g.set i j v).getD k #[]).size = (g.getD k #[]).size :=
  getD_modify_inv Array.size g #[] i k _ fun _ => Array.size_setIfInBounds

theorem get_set_ne (g : Grid2 β) (d : β) (i j i' j' : Nat) (v : β) (h : ¬ (i = i' ∧ j = j')) :
    (g.set i j v).get d i' j' = g.get d i' j' := by
  rw [get_set]; rw [if_neg]; intro hh; exact h ⟨hh.1, hh.2.1⟩

def InB (g : Grid2 β) (i j : Nat) : Prop := i < g.size ∧ j < (g.getD i #[]).size

theorem get_set_self {g : Grid2 β} {d : β} {i j : Nat} {v : β} (h : g.InB i j) :
    (g.set i j v).get d i j = v := by
  rw [Grid2.get_set, if_pos ⟨rfl, rfl, h.1, h.2⟩]

theorem set_set (g : Grid2 β) (i j : Nat) (v w : β) : (g.set i j v).set i j w = g.set i j w :=
  (modify_modify g i _ _).trans (congrArg (g.modify i) (funext fun _ => Array.setIfInBounds_setIfInBounds _))

theorem set_of_not_inB (g : Grid2 β) (i j : Nat) (v : β) (h : ¬ g.InB i j) : g.set i j v = g :=
  modify_eq_self g #[] i _ fun hi => Array.setIfInBounds_eq_of_size_le (Nat.le_of_not_lt fun hj => h ⟨hi, hj⟩)

theorem set_get_self (g : Grid2 β) (d : β) (i j : Nat) : g.set i j (g.get d i j) = g := by
  unfold Grid2.set Grid2.get
  exact modify_eq_self g #[] i _ fun _ => setIfInBounds_getD_self _ j d

/-- with `set_set` and `get_set_self` this turns any run of conditional read-modify-writes at one valid node into one
store -/
theorem ite_set (g : Grid2 β) (d : β) (i j : Nat) (c : Prop) [Decidable c] (v : β) :
    (if c then g.set i j v else g) = g.set i j (if c then v else g.get d i j) := by
  split
  · rfl
  · exact (set_get_self g d i j).symm

theorem set_ite (g : Grid2 β) (i j : Nat) (c : Prop) [Decidable c] (a b : β) :
    g.set i j (if c then a else b) = if c then g.set i j a else g.set i j b :=
  apply_ite (g.set i j) c a b

theorem set_read_set (g : Grid2 β) (d : β) (i j : Nat) (v : β) (f : β → β) :
    (g.set i j v).set i j (f ((g.set i j v).get d i j)) = g.set i j (f v) := by
  rw [set_set]
  by_cases h : g.InB i j
  · rw [get_set_self h]
  · rw [set_of_not_inB g i j _ h, set_of_not_inB g i j _ h]

theorem set_snd {γ : Type} (g : Grid2 (β × γ)) (d : β × γ) (i j : Nat) (v : β × γ) (b : γ) :
    (g.set i j v).set i j (((g.set i j v).get d i j).1, b) = g.set i j (v.1, b) :=
  set_read_set g d i j v fun x => (x.1, b)

end Grid2

namespace Grid3
variable {β : Type}

theorem get_set (g : Grid3 β) (d : β) (i j k i' j' k' : Nat) (v : β) :
    (g.set i j k v).get d i' j' k' =
      if i = i' ∧ j = j' ∧ k = k' ∧ i < g.size ∧ j < (g.getD i #[]).size
          ∧ k < ((g.getD i #[]).getD j #[]).size then v else g.get d i' j' k' := by
  show Grid2.get ((g.modify i fun p => Grid2.set p j k v).getD i' #[]) d j' k' = _
  rw [getD_modify]
  by_cases h : i = i' ∧ i < g.size
  · obtain ⟨rfl, h2⟩ := h
    rw [if_pos ⟨rfl, h2⟩, Grid2.get_set]
    simp only [h2, true_and]; rfl
  · rw [if_neg h, if_neg fun hh => h ⟨hh.1, hh.2.2.2.1⟩]; rfl

def InB (g : Grid3 β) (i j k : Nat) : Prop :=
  i < g.size ∧ j < (g.getD i #[]).size ∧ k < ((g.getD i #[]).getD j #[]).size

theorem size_set (g : Grid3 β) (i j k : Nat) (v : β) : (g.set i j k v).size = g.size :=
  Array.size_modify ..

theorem row_set (g : Grid3 β) (i j k a : Nat) (v : β) :
    ((g.set i j k v).getD a #[]).size = (g.getD a #[]).size :=
  getD_modify_inv Array.size g #[] i a _ fun p => Grid2.size_set p j k v

theorem col_set (g : Grid3 β) (i j k a b : Nat) (v : β) :
    (((g.set i j k v).getD a #[]).getD b #[]).size = ((g.getD a #[]).getD b #[]).size :=
  getD_modify_inv (fun p => (p.getD b #[]).size) g #[] i a _ fun p => Grid2.row_set p j k b v

theorem get_set_self {g : Grid3 β} {d : β} {i j k : Nat} {v : β} (h : g.InB i j k) :
    (g.set i j k v).get d i j k = v := by
  rw [get_set, if_pos ⟨rfl, rfl, rfl, h.1, h.2.1, h.2.2⟩]

theorem set_set (g : Grid3 β) (i j k : Nat) (v w : β) : (g.set i j k v).set i j k w = g.set i j k w :=
  (modify_modify g i _ _).trans (congrArg (g.modify i) (funext fun p => Grid2.set_set p j k v w))

theorem set_of_not_inB (g : Grid3 β) (i j k : Nat) (v : β) (h : ¬ g.InB i j k) : g.set i j k v = g :=
  modify_eq_self g #[] i _ fun hi => Grid2.set_of_not_inB _ j k v fun hp => h ⟨hi, hp⟩

theorem set_get_self (g : Grid3 β) (d : β) (i j k : Nat) : g.set i j k (g.get d i j k) = g :=
  modify_eq_self g #[] i _ fun _ => Grid2.set_get_self _ d j k

theorem ite_set (g : Grid3 β) (d : β) (i j k : Nat) (c : Prop) [Decidable c] (v : β) :
    (if c then g.set i j k v else g) = g.set i j k (if c then v else g.get d i j k) := by
  split
  · rfl
  · exact (set_get_self g d i j k).symm

theorem set_ite (g : Grid3 β) (i j k : Nat) (c : Prop) [Decidable c] (a b : β) :
    g.set i j k (if c then a else b) = if c then g.set i j k a else g.set i j k b :=
  apply_ite (g.set i j k) c a b

theorem set_read_set (g : Grid3 β) (d : β) (i j k : Nat) (v : β) (f : β → β) :
    (g.set i j k v).set i j k (f ((g.set i j k v).get d i j k)) = g.set i j k (f v) := by
  rw [set_set]
  by_cases h : g.InB i j k
  · rw [get_set_self h]
  · rw [set_of_not_inB g i j k _ h, set_of_not_inB g i j k _ h]

theorem set_snd {γ δ : Type} (g : Grid3 (β × γ × δ)) (d : β × γ × δ) (i j k : Nat) (v : β × γ × δ) (b : γ) :
    (g.set i j k v).set i j k (((g.set i j k v).get d i j k).1, b, ((g.set i j k v).get d i j k).2.2)
      = g.set i j k (v.1, b, v.2.2) :=
  set_read_set g d i j k v fun x => (x.1, b, x.2.2)

theorem set_thd {γ δ : Type} (g : Grid3 (β × γ × δ)) (d : β × γ × δ) (i j k : Nat) (v : β × γ × δ) (c : δ) :
    (g.set i j k v).set i j k (((g.set i j k v).get d i j k).1, ((g.set i j k v).get d i j k).2.1, c)
      = g.set i j k (v.1, v.2.1, c) :=
  set_read_set g d i j k v fun x => (x.1, x.2.1, c)

end Grid3

theorem Grid2.inB_set_iff {β : Type} (g : Grid2 β) (i j a b : Nat) (v : β) : (g.set i j v).InB a b ↔ g.InB a b := by
  unfold Grid2.InB
  rw [Grid2.size_set, Grid2.row_set]

theorem Grid3.inB_set_iff {β : Type} (g : Grid3 β) (i j k a b c : Nat) (v : β) : (g.set i j k v).InB a b c ↔ g.InB a b c := by
  unfold Grid3.InB
  rw [Grid3.size_set, Grid3.row_set, Grid3.col_set]

theorem nb_one (i : Nat) : nb i 1 = i - 1 := by simp [nb]
theorem nb_succ_one (i : Nat) : nb (i + 1) 1 = i := by simp [nb]
theorem nb_neg_one (i : Nat) : nb i (-1) = i + 1 := by simp [nb]
theorem nb_zero (i : Nat) : nb i 0 = i := by simp [nb]

variable {α : Type}

def Grid2.SameShape (g' g : Grid2 α) : Prop :=
  g'.size = g.size ∧ ∀ k, (g'.getD k #[]).size = (g.getD k #[]).size

def Grid3.SameShape (g' g : Grid3 α) : Prop :=
  g'.size = g.size ∧ (∀ a, (g'.getD a #[]).size = (g.getD a #[]).size)
    ∧ ∀ a b, ((g'.getD a #[]).getD b #[]).size = ((g.getD a #[]).getD b #[]).size

theorem Grid2.SameShape.refl (g : Grid2 α) : Grid2.SameShape g g := ⟨rfl, fun _ => rfl⟩
theorem Grid3.SameShape.refl (g : Grid3 α) : Grid3.SameShape g g := ⟨rfl, fun _ => rfl, fun _ _ => rfl⟩

theorem Grid2.SameShape.trans {a b c : Grid2 α} (h1 : Grid2.SameShape a b) (h2 : Grid2.SameShape b c) :
    Grid2.SameShape a c := ⟨h1.1.trans h2.1, fun k => (h1.2 k).trans (h2.2 k)⟩
theorem Grid3.SameShape.trans {a b c : Grid3 α} (h1 : Grid3.SameShape a b) (h2 : Grid3.SameShape b c) :
    Grid3.SameShape a c :=
  ⟨h1.1.trans h2.1, fun k => (h1.2.1 k).trans (h2.2.1 k), fun k l => (h1.2.2 k l).trans (h2.2.2 k l)⟩

theorem ss_pos {α : Type} [Scalar α] (x : Array α) (q : α) (hx : 0 < x.size) (h : Scalar.le (get1 x 0) q = true) :
    1 ≤ searchsortedRight x q := by
  unfold searchsortedRight
  split
  · obtain ⟨l⟩ := x
    cases l with
    | nil => simp at hx
    | cons a t =>
      have h' : Scalar.le a q = true := h
      simp [List.takeWhile, h']
  · exact hx

theorem axisCell_x1 {α : Type} [Scalar α] (x : Array α) (n : Nat) (xq : α) :
    (axisCell x n xq).x1 = get1 x (axisCell x n xq).i1 := rfl

theorem axisCell_x2 {α : Type} [Scalar α] (x : Array α) (n : Nat) (xq : α) :
    (axisCell x n xq).x2 = if (axisCell x n xq).edge then Scalar.two * get1 x (axisCell x n xq).i1 - last2 x
      else get1 x ((axisCell x n xq).i1 + 1) := rfl

end Fteik
