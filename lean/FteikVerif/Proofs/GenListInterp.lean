import FteikVerif.Generated.KListInterp
import FteikVerif.Proofs.GenLemmas
/-!
`Gen.I2/I3.interp*d_vectorized` are the translated `prange` wrappers `_interp2d/3d_vectorized` behind
`Grid2D/3D(points)` (those behind `TraveltimeGrid2D/3D(points)` are in `GenListVInterp.lean`).  For every scalar type
and every input: the result has one entry per query point, and entry `i` is exactly the single-point kernel applied
to point `i`.
-/
namespace Fteik
open Scalar

variable {α : Type} [Scalar α]

theorem gen_interp2d_list (x y : Array α) (v : Grid2 α) (xq yq : Array α) (fval : α) :
    (Gen.I2.interp2d_vectorized x y v xq yq fval).size = xq.size
    ∧ ∀ i, i < xq.size → (Gen.I2.interp2d_vectorized x y v xq yq fval)[i]?
        = some (Gen.I2.interp2d x y v (get1 xq i) (get1 yq i) fval) :=
  range_slots (fun i => Gen.I2.interp2d x y v (get1 xq i) (get1 yq i) fval) xq.size zero

theorem gen_interp3d_list (x y z : Array α) (v : Grid3 α) (xq yq zq : Array α) (fval : α) :
    (Gen.I3.interp3d_vectorized x y z v xq yq zq fval).size = xq.size
    ∧ ∀ i, i < xq.size → (Gen.I3.interp3d_vectorized x y z v xq yq zq fval)[i]?
        = some (Gen.I3.interp3d x y z v (get1 xq i) (get1 yq i) (get1 zq i) fval) :=
  range_slots (fun i => Gen.I3.interp3d x y z v (get1 xq i) (get1 yq i) (get1 zq i) fval) xq.size zero

end Fteik
