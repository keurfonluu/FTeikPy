import FteikVerif.Proofs.Sweep
/-!
# The `grad` flag never influences the source initialisation of the traveltimes

(For the sweeps see `sweep2d_tt_eq_sweepTT`, `sweep3d_tt_eq_sweepTT3` in `Proofs/Sweep.lean`.)  The
initialisation is run twice, with two values of the flag; "the components the traveltimes depend on
agree" is a relation between the two runs that every step preserves (`List.foldl_rel`).
-/
namespace Fteik
open Scalar

variable {α : Type} [Scalar α]

/-- the part of the initialisation state the traveltimes depend on -/
def Init2.core (s : Init2 α) : Grid2 α × Array α := (s.tt, s.td)

omit [Scalar α] in
theorem Init2.core_eq {s1 s2 : Init2 α} (h : s1.core = s2.core) :
    s2 = { s1 with sgn := s2.sgn, gradv := s2.gradv } := by
  obtain ⟨_, _, _, _⟩ := s1
  obtain ⟨_, _, _, _⟩ := s2
  cases h; rfl

/- `grad` occurs in `initXStep`/`initZStep` only in the `sgn` field that `initStore` writes, which
`core` forgets: once the two guards are decided, both sides compute to the same pair. -/
theorem initXStep_core (p : Par2 α) (slow : Grid2 α) (g1 g2 : Bool) (zsi : Nat) (dzu dzd : α)
    (east : Bool) (s1 s2 : Init2 α) (j : Nat) (h : s1.core = s2.core) :
    (initXStep p slow g1 zsi dzu dzd east s1 j).core = (initXStep p slow g2 zsi dzu dzd east s2 j).core := by
  rw [Init2.core_eq h]
  unfold initXStep
  cases gt dzd zero <;> cases gt dzu zero <;> rfl

theorem initZStep_core (p : Par2 α) (slow : Grid2 α) (g1 g2 : Bool) (xsi : Nat) (dxw dxe : α)
    (south : Bool) (s1 s2 : Init2 α) (i : Nat) (h : s1.core = s2.core) :
    (initZStep p slow g1 xsi dxw dxe south s1 i).core = (initZStep p slow g2 xsi dxw dxe south s2 i).core := by
  rw [Init2.core_eq h]
  unfold initZStep
  cases gt dxe zero <;> cases gt dxw zero <;> rfl

omit [Scalar α] in
theorem foldl_core {ι : Type} (f1 f2 : Init2 α → ι → Init2 α)
    (hf : ∀ s1 s2 x, s1.core = s2.core → (f1 s1 x).core = (f2 s2 x).core) (l : List ι)
    (s1 s2 : Init2 α) (h : s1.core = s2.core) : (l.foldl f1 s1).core = (l.foldl f2 s2).core :=
  List.foldl_rel (r := fun a b : Init2 α => a.core = b.core) h fun x _ a b => hf a b x

theorem initOffGrid_core (p : Par2 α) (slow : Grid2 α) (g1 g2 : Bool) (zsi xsi : Nat)
    (s1 s2 : Init2 α) (h : s1.core = s2.core) :
    (initOffGrid p slow g1 zsi xsi s1).core = (initOffGrid p slow g2 zsi xsi s2).core := by
  have td : ∀ (f : Array α → Array α) (a b : Init2 α), a.core = b.core →
      ({ a with td := f a.td } : Init2 α).core = ({ b with td := f b.td } : Init2 α).core := by
    intro f a b hab; rw [Init2.core_eq hab]; rfl
  unfold initOffGrid
  simp only
  -- the `let`s of `initOffGrid` are peeled from the last (north loop) to the first (the four nodes)
  apply foldl_core _ _ (initZStep_core p slow g1 g2 _ _ _ _)
  apply td (·.setIfInBounds _ _)
  apply foldl_core _ _ (initZStep_core p slow g1 g2 _ _ _ _)
  apply td (fun t => (Array.replicate t.size _).setIfInBounds _ _)
  apply foldl_core _ _ (initXStep_core p slow g1 g2 _ _ _ _)
  apply td (·.setIfInBounds _ _)
  apply foldl_core _ _ (initXStep_core p slow g1 g2 _ _ _ _)
  apply td (·.setIfInBounds _ _)
  apply foldl_core _ _ _ _ _ _ h
  intro a b x hab
  rw [Init2.core_eq hab]; rfl

end Fteik
