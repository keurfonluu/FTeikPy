import FteikVerif.Proofs.GenReal
import FteikVerif.Proofs.GenEquivWhole2
import FteikVerif.Proofs.GenEquivWhole3
/-!
For ℝ (exact arithmetic) the scalar hypotheses of `gen_fteik2d_eq` and `gen_fteik3d_eq` are theorems: `FarLaw ℝ`
(`farLaw_real`, `Proofs/GenReal.lean`) and, for positive spacings, `TruncNonneg2/3` whenever the domain check passes (in
3-D the coordinate on the far boundary is `x - eps15` instead of the clamped `n`, so this needs a non-empty grid).
-/
namespace Fteik

theorem real_trunc_nonneg (x : ℝ) (h : 0 ≤ x) : 0 ≤ (Scalar.trunc x : Int) := by
  show 0 ≤ (if 0 ≤ x then ⌊x⌋ else -⌊-x⌋)
  rw [if_pos h]
  exact Int.floor_nonneg.mpr h

/-- the source coordinate in grid units after the far-boundary correction `y` (2-D: the node count `n`; 3-D:
`x - eps15`): not negative, since the correction applies only from `n` on -/
theorem real_clamp_nonneg {x y : ℝ} {n : Nat} (hx : 0 ≤ x) (hy : (n : ℝ) ≤ x → 0 ≤ y) :
    0 ≤ (if Scalar.ge x (Scalar.ofInt (n : Int) : ℝ) = true then y else x) := by
  split
  · rename_i h
    rw [real_ge, real_ofInt, Int.cast_natCast] at h
    exact hy h
  · exact hx

theorem truncNonneg2_real (slow : Grid2 ℝ) (dz dx zs xs : ℝ) (hdz : 0 < dz) (hdx : 0 < dx)
    (hin : inModel2 slow dz dx zs xs = true) : TruncNonneg2 slow dz dx zs xs := by
  unfold inModel2 at hin
  simp only [Bool.and_eq_true, real_le, real_zero] at hin
  obtain ⟨⟨hz0, _⟩, ⟨hx0, _⟩⟩ := hin
  exact ⟨real_trunc_nonneg _ (real_clamp_nonneg (div_nonneg hz0 hdz.le) fun _ => Nat.cast_nonneg _),
    real_trunc_nonneg _ (real_clamp_nonneg (div_nonneg hx0 hdx.le) fun _ => Nat.cast_nonneg _)⟩

theorem gen_fteik2d_eq_real (big : ℝ) (slow : Grid2 ℝ) (dz dx zs xs : ℝ) (nsweep : Nat) (grad : Bool)
    (hz : 1 ≤ slow.size) (hx : 1 ≤ (slow.getD 0 #[]).size) (hdz : 0 < dz) (hdx : 0 < dx) :
    Gen.F2.fteik2d big slow dz dx zs xs (nsweep : Int) grad
      = (fteik2d big slow slow.size (slow.getD 0 #[]).size dz dx zs xs nsweep grad).map (fun o => (o.tt, o.grad, o.vzero)) :=
  gen_fteik2d_eq farLaw_real big slow dz dx zs xs nsweep grad hz hx (truncNonneg2_real slow dz dx zs xs hdz hdx)

theorem truncNonneg3_real (slow : Grid3 ℝ) (dz dx dy zs xs ys : ℝ) (hdz : 0 < dz) (hdx : 0 < dx) (hdy : 0 < dy)
    (hz : 1 ≤ slow.size) (hx : 1 ≤ (slow.getD 0 #[]).size) (hy : 1 ≤ ((slow.getD 0 #[]).getD 0 #[]).size)
    (hin : inModel3 slow dz dx dy zs xs ys = true) : TruncNonneg3 slow dz dx dy zs xs ys := by
  unfold inModel3 at hin
  simp only [Bool.and_eq_true, real_le, real_zero] at hin
  obtain ⟨⟨⟨hz0, _⟩, ⟨hx0, _⟩⟩, ⟨hy0, _⟩⟩ := hin
  -- `eps15 ≤ 1 ≤ n ≤ x`
  have low : ∀ {n : Nat} {x : ℝ}, 1 ≤ n → (n : ℝ) ≤ x → 0 ≤ x - Scalar.eps15 := fun hn h =>
    sub_nonneg.mpr (le_trans (by rw [real_eps15]; norm_num) (le_trans (Nat.one_le_cast.mpr hn) h))
  exact ⟨real_trunc_nonneg _ (real_clamp_nonneg (div_nonneg hz0 hdz.le) (low hz)),
    real_trunc_nonneg _ (real_clamp_nonneg (div_nonneg hx0 hdx.le) (low hx)),
    real_trunc_nonneg _ (real_clamp_nonneg (div_nonneg hy0 hdy.le) (low hy))⟩

theorem gen_fteik3d_eq_real (big : ℝ) (slow : Grid3 ℝ) (dz dx dy zs xs ys : ℝ) (nsweep : Nat) (grad : Bool)
    (hz : 1 ≤ slow.size) (hx : 1 ≤ (slow.getD 0 #[]).size) (hy : 1 ≤ ((slow.getD 0 #[]).getD 0 #[]).size)
    (hdz : 0 < dz) (hdx : 0 < dx) (hdy : 0 < dy) :
    Gen.F3.fteik3d big slow dz dx dy zs xs ys (nsweep : Int) grad
      = (fteik3d big slow slow.size (slow.getD 0 #[]).size ((slow.getD 0 #[]).getD 0 #[]).size dz dx dy zs xs ys nsweep grad).map
          (fun o => (o.tt, o.grad, o.vzero)) :=
  gen_fteik3d_eq big slow dz dx dy zs xs ys nsweep grad hz hx hy (truncNonneg3_real slow dz dx dy zs xs ys hdz hdx hdy hz hx hy)

end Fteik
