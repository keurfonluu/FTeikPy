import FteikVerif.Proofs.Sweep
/-!
# Fixed points of the sweep (C04), parametric in the scalar type

If a full sweep leaves every traveltime unchanged then every single node update in it was a
no-op (`fixed_sweep_steps`), hence at every node and for every sweep direction that visits it none of the candidates
(the two 1-D edge candidates in particular) is strictly below the stored time — in the scalar's own
arithmetic (for doubles: "to rounding").  Order facts used: `<` irreflexive and transitive; separating the two
edge candidates inside their `min` (`pymin2_not_lt`) also needs negative transitivity, which IEEE `<` has only
away from NaN.
-/
namespace Fteik
open Scalar

variable {α : Type} [Scalar α]

theorem NonInc.antisymm (hi : LtIrrefl α) (ht : LtTrans α) {a b : α} (h1 : NonInc a b) (h2 : NonInc b a) : a = b := by
  rcases h1 with rfl | h1
  · rfl
  · rcases h2 with rfl | h2
    · rfl
    · have := ht a b a h1 h2
      rw [hi a] at this; cases this

/-- what the kernels can observe of a grid: they read it through `get` only -/
def Grid2.Same (g g' : Grid2 α) : Prop := ∀ i j, g.get zero i j = g'.get zero i j

theorem Grid2.same_of_between (hi : LtIrrefl α) (ht : LtTrans α) {a m b : Grid2 α}
    (h1 : Grid2.NonInc b m) (h2 : Grid2.NonInc m a) (hab : Grid2.Same b a) : Grid2.Same m a :=
  fun i j => NonInc.antisymm hi ht (h2 i j) (by rw [← hab i j]; exact h1 i j)

theorem fixed_sweep_steps (hi : LtIrrefl α) (ht : LtTrans α) (p : Par2 α) (slow : Grid2 α) (tt : Grid2 α)
    (l pre suf : List (Nat × Nat × Dir2)) (x : Nat × Nat × Dir2) (hl : l = pre ++ x :: suf)
    (hfix : Grid2.Same (l.foldl (ttUpdate p slow) tt) tt) :
    Grid2.Same (pre.foldl (ttUpdate p slow) tt) tt
      ∧ Grid2.Same (ttUpdate p slow (pre.foldl (ttUpdate p slow) tt) x) tt := by
  subst hl
  rw [List.foldl_append, List.foldl_cons] at hfix
  -- end of sweep ≤ after `x` ≤ before `x` ≤ start, and the two ends read the same
  have h1 := foldl_ttUpdate_nonInc ht p slow suf (ttUpdate p slow (pre.foldl (ttUpdate p slow) tt) x)
  have h2 := ttUpdate_nonInc ht p slow (pre.foldl (ttUpdate p slow) tt) x
  have h3 := foldl_ttUpdate_nonInc ht p slow pre tt
  exact ⟨Grid2.same_of_between hi ht (h1.trans ht h2) h3 hfix,
    Grid2.same_of_between hi ht h1 (h2.trans ht h3) hfix⟩

theorem candidates2_congr (p : Par2 α) (slow : Grid2 α) (g g' : Grid2 α) (h : Grid2.Same g g') (i j : Nat) (d : Dir2) :
    candidates2 p slow g i j d = candidates2 p slow g' i j d := by
  unfold candidates2
  simp only [h _ _]

theorem pymin2_eq_left (hi : LtIrrefl α) (a b : α) (h : pymin2 a b = a) : lt b a = false := by
  rcases pymin2_cases a b with ⟨hba, e⟩ | ⟨hba, -⟩
  · rw [h.symm.trans e, hi b] at hba; cases hba
  · exact hba

theorem pymin3_eq_left (hi : LtIrrefl α) (ht : LtTrans α) (t0 a b : α) (h : pymin3 t0 a b = t0) :
    lt a t0 = false ∧ lt b t0 = false := by
  -- `t0 = pymin2 (pymin2 t0 a) b ≤ pymin2 t0 a ≤ t0`, so the inner minimum is `t0` as well
  have h : pymin2 (pymin2 t0 a) b = t0 := h
  have e : pymin2 t0 a = t0 := by
    have := pymin2_nonInc_left (pymin2 t0 a) b
    rw [h] at this
    exact NonInc.antisymm hi ht (pymin2_nonInc_left t0 a) this
  rw [e] at h
  exact ⟨pymin2_eq_left hi _ _ e, pymin2_eq_left hi _ _ h⟩

theorem pymin2_not_lt (ht : LtTrans α) (hn : LtNegTrans α) (a b t0 : α) (h : lt (pymin2 a b) t0 = false) :
    lt a t0 = false ∧ lt b t0 = false := by
  rcases pymin2_cases a b with ⟨hba, e⟩ | ⟨hba, e⟩ <;> rw [e] at h
  · refine ⟨?_, h⟩
    cases ha : lt a t0
    · rfl
    · have := ht b a t0 hba ha
      rw [h] at this; cases this
  · -- the one place that needs `LtNegTrans`: from `¬ b < a` and `¬ a < t0` to `¬ b < t0`
    exact ⟨h, hn b a t0 hba h⟩

end Fteik
