import FteikVerif.Proofs.GenEquivSolver3
import FteikVerif.Generated.KSolver3
import FteikVerif.Proofs.GenEquivLoops2
/-!
The translated body of `sweep3d` in `_fteik3d.py` (eight octant loop nests calling `sweep`) equals the model's
`sweep3d` (a fold of `nodeUpdate3` over `schedule3`) on every box-shaped state, with the `dargs`
tuple computed from the spacings exactly as the model's `mkPar3` does.
-/
namespace Fteik

variable {α : Type} [Scalar α]

def Grid3.IsBox {β : Type} (g : Grid3 β) (nz nx ny : Nat) : Prop :=
  g.size = nz ∧ (∀ a, a < nz → (g.getD a #[]).size = nx)
    ∧ ∀ a b, a < nz → b < nx → ((g.getD a #[]).getD b #[]).size = ny

theorem Grid3.IsBox.inB {β : Type} {g : Grid3 β} {nz nx ny : Nat} (h : g.IsBox nz nx ny) {i j k : Nat}
    (hi : i < nz) (hj : j < nx) (hk : k < ny) : g.InB i j k :=
  ⟨by rw [h.1]; exact hi, by rw [h.2.1 i hi]; exact hj, by rw [h.2.2 i j hi hj]; exact hk⟩

theorem Grid3.IsBox.set {β : Type} {g : Grid3 β} {nz nx ny : Nat} (h : g.IsBox nz nx ny) (i j k : Nat) (v : β) :
    (g.set i j k v).IsBox nz nx ny :=
  ⟨by rw [Grid3.size_set]; exact h.1, fun a ha => by rw [Grid3.row_set]; exact h.2.1 a ha,
   fun a b ha hb => by rw [Grid3.col_set]; exact h.2.2 a b ha hb⟩

theorem Grid3.full_box {β : Type} (nz nx ny : Nat) (v : β) : (Grid3.full nz nx ny v).IsBox nz nx ny := by
  unfold Grid3.full Grid3.IsBox
  refine ⟨by simp, fun a ha => ?_, fun a b ha hb => ?_⟩
  · simp [Array.getD_eq_getD_getElem?, ha]
  · simp [Array.getD_eq_getD_getElem?, ha, hb]

def St3.toP (s : St3 α) : Grid3 α × Grid3 (Int × Int × Int) := (s.tt, s.sgn)

/-- the invariant of every loop of the translated `sweep3d` (cf. `St2.Sim`) -/
def St3.Sim (nz nx ny : Nat) (st : Grid3 α × Grid3 (Int × Int × Int)) (s : St3 α) : Prop :=
  st = s.toP ∧ s.tt.IsBox nz nx ny

theorem St3.Sim.node {p : Par3 α} (slow : Grid3 α) (grad : Bool) (d : Dir3) {i j k : Nat}
    (hi : i < p.nz) (hj : j < p.nx) (hk : k < p.ny) {st : Grid3 α × Grid3 (Int × Int × Int)} {s : St3 α}
    (h : St3.Sim p.nz p.nx p.ny st s) :
    St3.Sim p.nz p.nx p.ny
      (Gen.F3.sweep p.big st.1 st.2 slow
        (p.dz, p.dx, p.dy, p.dz2i, p.dx2i, p.dy2i, p.dz2dx2, p.dz2dy2, p.dx2dy2, p.dsum)
        (Int.ofNat i) (Int.ofNat j) (Int.ofNat k) d.sgnvz d.sgnvx d.sgnvy d.sgntz d.sgntx d.sgnty p.nz p.nx p.ny grad)
      (nodeUpdate3 p slow grad s i j k d) := by
  obtain ⟨rfl, hb⟩ := h
  exact ⟨gen_sweep3 p slow grad s i j k d (hb.inB hi hj hk), by rw [nodeUpdate3_tt]; exact hb.set ..⟩

attribute [local irreducible] Gen.F3.sweep pyRange

theorem rangeDir_lt {up : Bool} {n i : Nat} (h : i ∈ rangeDir up n) : i < n := by
  cases up
  · exact lt_of_mem_rangeDown h
  · exact lt_of_mem_rangeUp h

/-- the loop header of the source for one axis of an octant: `range(1, n)` or `range(n - 2, -1, -1)` -/
def pyRangeDir (up : Bool) (n : Nat) : List Int :=
  if up then pyRange 1 (n : Int) 1 else pyRange ((n : Int) - 2) (-1) (-1)

theorem pyRange_dir (up : Bool) (n : Nat) : pyRangeDir up n = (rangeDir up n).map Int.ofNat := by
  cases up
  · exact pyRange_down n
  · exact pyRange_up n

/-- one octant `o = (zUp, xUp, yUp)` of `sweep3d`: outer loop over `k`, middle over `j`, inner over `i`, each ascending
or descending according to `o`, direction constants `dir3 o`; the eight loop nests of the source are its instances.
The nest and `dargs` enter through equations: at a call both are closed by `rfl`, one comparison with the source's
nest, where a nest written into the conclusion is compared once per use of that type. -/
theorem St3.Sim.octant (p : Par3 α) (slow : Grid3 α) (grad : Bool) (o : Bool × Bool × Bool)
    {dargs : α × α × α × α × α × α × α × α × α × α}
    (hd : dargs = (p.dz, p.dx, p.dy, p.dz2i, p.dx2i, p.dy2i, p.dz2dx2, p.dz2dy2, p.dx2dy2, p.dsum))
    {st r : Grid3 α × Grid3 (Int × Int × Int)} {s : St3 α} (h : St3.Sim p.nz p.nx p.ny st s)
    (hr : r = (pyRangeDir o.2.2 p.ny).foldl (fun st (k : Int) => (pyRangeDir o.2.1 p.nx).foldl (fun st (j : Int) =>
        (pyRangeDir o.1 p.nz).foldl (fun st i =>
          Gen.F3.sweep p.big st.1 st.2 slow dargs
            i j k (dir3 o).sgnvz (dir3 o).sgnvx (dir3 o).sgnvy (dir3 o).sgntz (dir3 o).sgntx (dir3 o).sgnty
            p.nz p.nx p.ny grad) st) st) st) :
    St3.Sim p.nz p.nx p.ny r
      ((rangeDir o.2.2 p.ny).foldl (fun s k => (rangeDir o.2.1 p.nx).foldl (fun s j =>
        (rangeDir o.1 p.nz).foldl (fun s i => nodeUpdate3 p slow grad s i j k (dir3 o)) s) s) s) := by
  subst hd hr
  exact foldl_related_map _ Int.ofNat (pyRange_dir _ _) h fun _ hk _ _ h =>
    foldl_related_map _ Int.ofNat (pyRange_dir _ _) h fun _ hj _ _ h =>
      foldl_related_map _ Int.ofNat (pyRange_dir _ _) h fun _ hi _ _ h =>
        h.node slow grad (dir3 o) (rangeDir_lt hi) (rangeDir_lt hj) (rangeDir_lt hk)

theorem St3.Sim.sweep3d (big dz dx dy : α) {nz nx ny : Nat} (slow : Grid3 α) (grad : Bool)
    {st : Grid3 α × Grid3 (Int × Int × Int)} {s : St3 α} (h : St3.Sim nz nx ny st s) :
    St3.Sim nz nx ny (Gen.F3.sweep3d big st.1 st.2 slow dz dx dy nz nx ny grad)
      (Fteik.sweep3d (mkPar3 big dz dx dy nz nx ny) slow grad s) := by
  unfold Fteik.sweep3d schedule3
  simp only [List.foldl_flatMap, List.foldl_map]
  -- `r1 … r8`: the states after the eight loop nests; naming them keeps every step about one nest (the `_` are the seven
  -- inverse spacings and products before `dargs`, and the two components `tt`, `ttsgn` of each result)
  unfold Gen.F3.sweep3d
  extract_lets _ _ _ _ _ _ _ dargs r1 _ _ r2 _ _ r3 _ _ r4 _ _ r5 _ _ r6 _ _ r7 _ _ r8
  let p := mkPar3 big dz dx dy nz nx ny
  have hd : dargs = (p.dz, p.dx, p.dy, p.dz2i, p.dx2i, p.dy2i, p.dz2dx2, p.dz2dy2, p.dx2dy2, p.dsum) := rfl
  -- `by rfl`: as a term, `rfl` is matched with the loop nest twice
  have h1 : St3.Sim nz nx ny r1 _ := h.octant p slow grad (true, true, true) hd (by rfl)
  have h2 : St3.Sim nz nx ny r2 _ := h1.octant p slow grad (true, false, true) hd (by rfl)
  have h3 : St3.Sim nz nx ny r3 _ := h2.octant p slow grad (true, true, false) hd (by rfl)
  have h4 : St3.Sim nz nx ny r4 _ := h3.octant p slow grad (true, false, false) hd (by rfl)
  have h5 : St3.Sim nz nx ny r5 _ := h4.octant p slow grad (false, true, true) hd (by rfl)
  have h6 : St3.Sim nz nx ny r6 _ := h5.octant p slow grad (false, false, true) hd (by rfl)
  have h7 : St3.Sim nz nx ny r7 _ := h6.octant p slow grad (false, true, false) hd (by rfl)
  have h8 : St3.Sim nz nx ny r8 _ := h7.octant p slow grad (false, false, false) hd (by rfl)
  exact h8

theorem gen_sweep3d (big dz dx dy : α) (nz nx ny : Nat) (slow : Grid3 α) (grad : Bool) (s : St3 α)
    (hb : s.tt.IsBox nz nx ny) :
    Gen.F3.sweep3d big s.tt s.sgn slow dz dx dy nz nx ny grad
      = (sweep3d (mkPar3 big dz dx dy nz nx ny) slow grad s).toP :=
  (St3.Sim.sweep3d big dz dx dy slow grad ⟨rfl, hb⟩).1

theorem gen_fteik3d_sweeps (big dz dx dy : α) (nz nx ny : Nat) (slow : Grid3 α) (grad : Bool) (n : Nat) (s : St3 α)
    (hb : s.tt.IsBox nz nx ny) :
    Gen.F3.fteik3d_loop2 big dx dy dz grad (n : Int) nx ny nz slow s.tt s.sgn
      = (iter (sweep3d (mkPar3 big dz dx dy nz nx ny) slow grad) n s).toP :=
  (foldl_pyRange_iter (St3.Sim nz nx ny) _ n ⟨rfl, hb⟩ fun _ _ _ h => h.sweep3d big dz dx dy slow grad).1

end Fteik
