import FteikVerif.Generated.KListVInterp
import FteikVerif.Proofs.GenLemmas
/-!
As `GenListInterp.lean`, for the `prange` wrappers `_vinterp2d/3d_vectorized` behind `TraveltimeGrid2D/3D(points)`.
-/
namespace Fteik
open Scalar

variable {α : Type} [Scalar α]

theorem gen_vinterp2d_list (x y : Array α) (v : Grid2 α) (xq yq : Array α) (xs ys vz fval : α) :
    (Gen.V2.vinterp2d_vectorized x y v xq yq xs ys vz fval).size = xq.size
    ∧ ∀ i, i < xq.size → (Gen.V2.vinterp2d_vectorized x y v xq yq xs ys vz fval)[i]?
        = some (Gen.V2.vinterp2d x y v (get1 xq i) (get1 yq i) xs ys vz fval) :=
  range_slots (fun i => Gen.V2.vinterp2d x y v (get1 xq i) (get1 yq i) xs ys vz fval) xq.size zero

theorem gen_vinterp3d_list (x y z : Array α) (v : Grid3 α) (xq yq zq : Array α) (xs ys zs vz fval : α) :
    (Gen.V3.vinterp3d_vectorized x y z v xq yq zq xs ys zs vz fval).size = xq.size
    ∧ ∀ i, i < xq.size → (Gen.V3.vinterp3d_vectorized x y z v xq yq zq xs ys zs vz fval)[i]?
        = some (Gen.V3.vinterp3d x y z v (get1 xq i) (get1 yq i) (get1 zq i) xs ys zs vz fval) :=
  range_slots (fun i => Gen.V3.vinterp3d x y z v (get1 xq i) (get1 yq i) (get1 zq i) xs ys zs vz fval) xq.size zero

end Fteik
