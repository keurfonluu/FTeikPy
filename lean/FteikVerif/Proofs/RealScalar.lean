import Mathlib.Analysis.SpecialFunctions.Sqrt
import FteikVerif.Proofs.Sweep
/-!
# The real-number interpretation of the scalar interface

`Scalar ℝ`: exact arithmetic, `Real.sqrt`, decidable (classical) comparisons.  Theorems proved
at this instance say what the formulas of the kernels compute in exact arithmetic; rounding is
outside them (DESIGN §1).
-/
namespace Fteik
open Scalar

noncomputable instance instScalarReal : Scalar ℝ where
  ofInt n := (n : ℝ)
  sq x := x ^ 2
  sqrt := Real.sqrt
  abs x := |x|
  lt a b := decide (a < b)
  le a b := decide (a ≤ b)
  eq a b := decide (a = b)
  trunc x := if 0 ≤ x then ⌊x⌋ else -⌊-x⌋
  rint x :=
    let f := ⌊x⌋
    let d := x - f
    if d < 1 / 2 then (f : ℝ) else if 1 / 2 < d then (f : ℝ) + 1
    else if f % 2 = 0 then (f : ℝ) else (f : ℝ) + 1

@[simp] theorem real_lt (a b : ℝ) : (Scalar.lt a b = true) ↔ a < b := decide_eq_true_iff
@[simp] theorem real_le (a b : ℝ) : (Scalar.le a b = true) ↔ a ≤ b := decide_eq_true_iff
@[simp] theorem real_eq (a b : ℝ) : (Scalar.eq a b = true) ↔ a = b := decide_eq_true_iff
@[simp] theorem real_gt (a b : ℝ) : (Scalar.gt a b = true) ↔ b < a := decide_eq_true_iff
@[simp] theorem real_ge (a b : ℝ) : (Scalar.ge a b = true) ↔ b ≤ a := decide_eq_true_iff
@[simp] theorem real_ofInt (n : Int) : (Scalar.ofInt n : ℝ) = (n : ℝ) := rfl
@[simp] theorem real_sq (x : ℝ) : Scalar.sq x = x ^ 2 := rfl
@[simp] theorem real_sqrt (x : ℝ) : Scalar.sqrt x = Real.sqrt x := rfl
@[simp] theorem real_abs (x : ℝ) : Scalar.abs x = |x| := rfl
@[simp] theorem real_zero : (Scalar.zero : ℝ) = 0 := Int.cast_zero
@[simp] theorem real_one : (Scalar.one : ℝ) = 1 := Int.cast_one
@[simp] theorem real_two : (Scalar.two : ℝ) = 2 := by simp [Scalar.two]
@[simp] theorem real_four : (Scalar.four : ℝ) = 4 := by simp [Scalar.four]
@[simp] theorem real_nine : (Scalar.nine : ℝ) = 9 := by simp [Scalar.nine]
@[simp] theorem real_half : (Scalar.half : ℝ) = 1 / 2 := by simp [Scalar.half]
theorem real_le_false (a b : ℝ) : Scalar.le a b = false ↔ b < a := by
  rw [← Bool.not_eq_true, real_le, not_le]
theorem real_truthy (a : ℝ) : truthy a = true ↔ a ≠ 0 := by
  simp [truthy, Scalar.ne, Scalar.eq, Scalar.zero, Scalar.ofInt]
theorem real_rint_int (n : Int) : (Scalar.rint ((n : ℝ)) : ℝ) = (n : ℝ) := by
  simp [Scalar.rint]
theorem real_eps15 : (Scalar.eps15 : ℝ) = 1 / 1000000000000000 := by simp [Scalar.eps15]

theorem real_pymin2 (a b : ℝ) : pymin2 a b = min a b := by
  rw [min_comm, min_def_lt]
  simp only [pymin2, real_lt]

theorem real_pymax2 (a b : ℝ) : pymax2 a b = max a b := by
  rw [max_def_lt]
  simp only [pymax2, real_lt]

theorem ltTrans_real : LtTrans ℝ := by
  intro a b c h1 h2
  simp only [real_lt] at *
  exact lt_trans h1 h2

theorem ltIrrefl_real : LtIrrefl ℝ := by intro a; simp [Scalar.lt]
theorem ltNegTrans_real : LtNegTrans ℝ := by
  intro a b c h1 h2
  simp only [Scalar.lt, decide_eq_false_iff_not, not_lt] at *
  exact le_trans h2 h1

end Fteik
