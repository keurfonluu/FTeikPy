import FteikVerif.Proofs.GenEquivLoops3
import FteikVerif.Proofs.GenEquivWhole2
/-!
`Gen.F3.fteik3d` - the complete body of `fteik3d` as translated from `/repo`'s working tree (domain
check, conversion to grid units, allocation, the eight analytic corner nodes, the sweep iteration, the
gradient assembly) - **equals the hand-written model `fteik3d`**, the error case included, for every scalar type, every
non-empty slowness grid, every source, every `nsweep`, with and without the gradient (`gen_fteik3d_eq`; hypothesis
`TruncNonneg3` when the domain check passes).
-/
namespace Fteik
open Scalar

variable {α : Type} [Scalar α]

/-! ## the eight nodes around the source (`loop1`) -/

theorem gen3_loop1 (dz dx dy zsa xsa ysa vzero : α) (grad : Bool) (zsi xsi ysi : Nat) (tt : Grid3 α) (g : Grid3 (α × α × α)) :
    Gen.F3.fteik3d_loop1 dx dy dz grad tt g vzero xsa (xsi : Int) ysa (ysi : Int) zsa (zsi : Int)
      = [(zsi, xsi, ysi), (zsi + 1, xsi, ysi), (zsi, xsi + 1, ysi), (zsi, xsi, ysi + 1),
         (zsi + 1, xsi + 1, ysi), (zsi + 1, xsi, ysi + 1), (zsi, xsi + 1, ysi + 1),
         (zsi + 1, xsi + 1, ysi + 1)].foldl (fun (acc : Grid3 α × Grid3 (α × α × α)) (c : Nat × Nat × Nat) =>
          let (t, tzc, txc, tyc) := tAnad3 c.1 c.2.1 c.2.2 dz dx dy zsa xsa ysa vzero
          (acc.1.set c.1 c.2.1 c.2.2 t,
           if grad then acc.2.set c.1 c.2.1 c.2.2 (tzc, txc, tyc) else acc.2)) (tt, g) := by
  unfold Gen.F3.fteik3d_loop1
  refine foldl_hom_map id (fun c : Nat × Nat × Nat => ((c.1 : Int), (c.2.1 : Int), (c.2.2 : Int)))
    (by simp only [List.map_cons, List.map_nil, Int.natCast_add_one]) (fun t c => ?_) (tt, g)
  simp only [gen_tAnad3, Int.toNat_natCast, id, Grid3.set_snd, Grid3.set_thd]

/-! ## the gradient assembly (`loop3`, `if1`) -/

theorem gen3_loop3 (p : Par3 α) (tt : Grid3 α) (sgn : Grid3 (Int × Int × Int)) (gradv : Grid3 (α × α × α)) :
    Gen.F3.fteik3d_loop3 p.dx p.dy p.dz (p.nx : Int) (p.ny : Int) (p.nz : Int) tt gradv sgn = assembleGrad3 p tt sgn gradv := by
  unfold Gen.F3.fteik3d_loop3 assembleGrad3
  refine foldl_hom_map id Int.ofNat (pyRange_zero _) (fun g i => ?_) gradv
  refine foldl_hom_map id Int.ofNat (pyRange_zero _) (fun g j => ?_) g
  refine foldl_hom_map id Int.ofNat (pyRange_zero _) (fun g k => ?_) g
  -- the node `(i, j, k)`: three conditional component stores and a normalisation against one store of `gradNode3`,
  -- as in `gen_gradNode`
  simp only [id, Int.toNat_natCast, Int.ofNat_eq_natCast]
  by_cases h : g.InB i j k
  · simp only [Grid3.ite_set _ (zero, zero, zero), ← Grid3.set_ite, Grid3.set_set, Grid3.get_set_self h]
    refine congrArg (g.set i j k) ?_
    unfold gradNode3 nb
    simp only [ite_pair_eta, ite_self, gen_norm3d, Int.ofNat_eq_natCast]
  · simp only [Grid3.set_of_not_inB g i j k _ h, ite_self]

theorem gen3_if1 (p : Par3 α) (grad : Bool) (tt : Grid3 α) (sgn : Grid3 (Int × Int × Int)) (gradv : Grid3 (α × α × α)) :
    Gen.F3.fteik3d_if1 p.dx p.dy p.dz grad (p.nx : Int) (p.ny : Int) (p.nz : Int) tt gradv sgn
      = if grad then assembleGrad3 p tt sgn gradv else gradv := by
  unfold Gen.F3.fteik3d_if1
  rw [gen3_loop3]

/-- As `TruncNonneg2`, except that where `fteik2d` clamps a coordinate to the far boundary `fteik3d` lowers it by `eps`
(`zsa = zsa - eps if zsa >= nz else zsa`). -/
def TruncNonneg3 (slow : Grid3 α) (dz dx dy zs xs ys : α) : Prop :=
  0 ≤ trunc (if ge (zs / dz) (ofInt (slow.size : Int) : α) then zs / dz - eps15 else zs / dz)
  ∧ 0 ≤ trunc (if ge (xs / dx) (ofInt ((slow.getD 0 #[]).size : Int) : α) then xs / dx - eps15 else xs / dx)
  ∧ 0 ≤ trunc (if ge (ys / dy) (ofInt (((slow.getD 0 #[]).getD 0 #[]).size : Int) : α) then ys / dy - eps15 else ys / dy)

/-- The corner loop of `prepare3` (the fold in the statement of `gen3_loop1`) under a name: `gen3_tail` only needs that
it keeps the box shape (`corners3_box`), and replaces it by a variable. -/
def corners3 (dz dx dy zsa xsa ysa vzero : α) (grad : Bool) (zsi xsi ysi : Nat) (acc : Grid3 α × Grid3 (α × α × α)) :
    Grid3 α × Grid3 (α × α × α) :=
  [(zsi, xsi, ysi), (zsi + 1, xsi, ysi), (zsi, xsi + 1, ysi), (zsi, xsi, ysi + 1),
         (zsi + 1, xsi + 1, ysi), (zsi + 1, xsi, ysi + 1), (zsi, xsi + 1, ysi + 1),
         (zsi + 1, xsi + 1, ysi + 1)].foldl (fun (acc : Grid3 α × Grid3 (α × α × α)) (c : Nat × Nat × Nat) =>
          let (t, tzc, txc, tyc) := tAnad3 c.1 c.2.1 c.2.2 dz dx dy zsa xsa ysa vzero
          (acc.1.set c.1 c.2.1 c.2.2 t,
           if grad then acc.2.set c.1 c.2.1 c.2.2 (tzc, txc, tyc) else acc.2)) acc

theorem corners3_box (dz dx dy zsa xsa ysa vzero : α) (grad : Bool) (zsi xsi ysi : Nat) (acc : Grid3 α × Grid3 (α × α × α))
    {nz nx ny : Nat} (h : acc.1.IsBox nz nx ny) :
    (corners3 dz dx dy zsa xsa ysa vzero grad zsi xsi ysi acc).1.IsBox nz nx ny :=
  List.foldlRecOn (motive := fun a : Grid3 α × Grid3 (α × α × α) => a.1.IsBox nz nx ny) _ _ h fun _ ha _ _ => ha.set ..

theorem gen3_tail (big dz dx dy zsa xsa ysa vzero : α) (slow : Grid3 α) (grad : Bool) (zsi xsi ysi nz nx ny nsweep : Nat) :
    let tt0 := Grid3.full nz nx ny big
    let g0 : Grid3 (α × α × α) := if grad then Grid3.full nz nx ny (zero, zero, zero) else #[]
    let sg0 : Grid3 (Int × Int × Int) := if grad then Grid3.full nz nx ny (0, 0, 0) else #[]
    let r := Gen.F3.fteik3d_loop1 dx dy dz grad tt0 g0 vzero xsa (xsi : Int) ysa (ysi : Int) zsa (zsi : Int)
    let res2 := Gen.F3.fteik3d_loop2 big dx dy dz grad (nsweep : Int) (nx : Int) (ny : Int) (nz : Int) slow r.1 sg0
    (res2.1, Gen.F3.fteik3d_if1 dx dy dz grad (nx : Int) (ny : Int) (nz : Int) res2.1 r.2 res2.2)
      = (let R := corners3 dz dx dy zsa xsa ysa vzero grad zsi xsi ysi (tt0, g0)
         let p := mkPar3 big dz dx dy nz nx ny
         let st := iter (sweep3d p slow grad) nsweep ⟨R.1, sg0⟩
         (st.tt, if grad then assembleGrad3 p st.tt st.sgn R.2 else R.2)) := by
  intro tt0 g0 sg0 r
  rw [show r = corners3 dz dx dy zsa xsa ysa vzero grad zsi xsi ysi (tt0, g0) from
    gen3_loop1 dz dx dy zsa xsa ysa vzero grad zsi xsi ysi tt0 g0]
  -- of the corner loop only the shape of its result `R` matters; as a variable it cannot be unfolded
  have hb := corners3_box dz dx dy zsa xsa ysa vzero grad zsi xsi ysi (tt0, g0) (Grid3.full_box nz nx ny big)
  generalize corners3 dz dx dy zsa xsa ysa vzero grad zsi xsi ysi (tt0, g0) = R at hb ⊢
  intro res2
  rw [show res2 = _ from gen_fteik3d_sweeps big dz dx dy nz nx ny slow grad nsweep ⟨R.1, sg0⟩ hb,
    show Gen.F3.fteik3d_if1 dx dy dz grad (nx : Int) (ny : Int) (nz : Int) _ _ _ = _ from
      gen3_if1 (mkPar3 big dz dx dy nz nx ny) grad _ _ _]
  rfl

theorem gen_fteik3d_eq (big : α) (slow : Grid3 α) (dz dx dy zs xs ys : α) (nsweep : Nat) (grad : Bool)
    (hz : 1 ≤ slow.size) (hx : 1 ≤ (slow.getD 0 #[]).size) (hy : 1 ≤ ((slow.getD 0 #[]).getD 0 #[]).size)
    (ht : inModel3 slow dz dx dy zs xs ys = true → TruncNonneg3 slow dz dx dy zs xs ys) :
    Gen.F3.fteik3d big slow dz dx dy zs xs ys (nsweep : Int) grad
      = (fteik3d big slow slow.size (slow.getD 0 #[]).size ((slow.getD 0 #[]).getD 0 #[]).size dz dx dy zs xs ys nsweep grad).map
          (fun o => (o.tt, o.grad, o.vzero)) := by
  rcases Bool.eq_false_or_eq_true (inModel3 slow dz dx dy zs xs ys) with hc | hc
  · -- what the hypotheses give is settled before the solvers are opened: the cell indices of the source are naturals
    obtain ⟨htz, htx, hty⟩ := ht hc
    obtain ⟨zsi, hzsi, -⟩ := exists_cell_index htz hz
    obtain ⟨xsi, hxsi, -⟩ := exists_cell_index htx hx
    obtain ⟨ysi, hysi, -⟩ := exists_cell_index hty hy
    simp only [inModel3, Int.ofNat_eq_natCast] at hc
    unfold Gen.F3.fteik3d fteik3d prepare3
    simp only [Int.ofNat_eq_natCast, hc, hzsi, hxsi, hysi, Bool.not_true, Bool.false_eq_true, if_false, Except.map,
      ← Int.natCast_add_one, Int.toNat_natCast, apply_ite Prod.fst, apply_ite Prod.snd]
    exact congrArg (fun x => Except.ok (x.1, x.2, slow.get zero zsi xsi ysi))
      (gen3_tail big dz dx dy _ _ _ (slow.get zero zsi xsi ysi) slow grad zsi xsi ysi _ _ _ nsweep)
  · simp only [inModel3, Int.ofNat_eq_natCast] at hc
    unfold Gen.F3.fteik3d fteik3d prepare3
    simp only [Int.ofNat_eq_natCast, hc, Bool.not_false, if_true, Except.map]
end Fteik
