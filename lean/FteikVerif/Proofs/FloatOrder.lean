import Mathlib.Data.Fintype.EquivFin
import FteikVerif.Proofs.Sweep
/-!
# `<` on Lean's `Float` is a well-founded strict order

Lean 4.33 gives `Float` a logical model (`Float.Model`: the 64-bit patterns with canonical NaN;
comparison is defined on the unpacked form by `UnpackedFloat.compare`, transparent to the kernel).
From that definition we prove, with the standard axioms only, that IEEE `<` on `Float` is
irreflexive and transitive (NaN included: it is related to nothing), and - `Float` being a finite
type - well-founded.  These are exactly the order hypotheses of the parametric theorems
(`LtIrrefl`, `LtTrans`, well-foundedness for stabilisation), which therefore hold for the scalar
type the model is *executed* at.  (Negative transitivity `LtNegTrans`, which the fixed-point theorems of C04 assume,
is false in the presence of NaN and stays a hypothesis there.)

What remains trusted is that the compiled `Float` operations agree with `Float.Model`, which is
the contract of Lean's runtime (`@[extern]` implementations), not ours.
-/
open Float.Model

namespace Fteik.FloatOrder

/-- a key in a linear order: `(class, exponent, mantissa)`, compared lexicographically -/
def ukey : UnpackedFloat → Option (Int × Int × Int)
  | .notANumber => none
  | .infinity .negative => some (-2, 0, 0)
  | .finite .negative m e _ => some (-1, -e, -(m : Int))
  | .zero _ => some (0, 0, 0)
  | .finite .positive m e _ => some (1, e, m)
  | .infinity .positive => some (2, 0, 0)

abbrev klt : Int × Int × Int → Int × Int × Int → Prop := Prod.Lex (· < ·) (Prod.Lex (· < ·) (· < ·))

theorem unpacked_lt_eq (a b : UnpackedFloat) :
    a.lt b = match ukey a, ukey b with
      | some ka, some kb => decide (klt ka kb)
      | _, _ => false := by
  -- with constructors (and signs) given both sides compute, except for two finite numbers of the same sign,
  -- where `compare` compares exponents, then mantissas (and swaps the outcome for negative numbers)
  rcases a with sa | _ | _ | ⟨sa, m, e, h⟩ <;> rcases b with sb | _ | _ | ⟨sb, m', e', h'⟩
  case finite.finite =>
    cases sa <;> cases sb
    case negative.positive | positive.negative => rfl
    all_goals
      rw [Bool.eq_iff_iff]
      simp [UnpackedFloat.lt, UnpackedFloat.compare, ukey, Prod.lex_def, Ordering.then_eq_lt, Ordering.then_eq_gt,
        Ordering.swap_eq_lt, compare_lt_iff_lt, compare_gt_iff_gt]
  -- a `rfl` that fails is dear here, so the cases above come first
  all_goals (try cases sa) <;> (try cases sb) <;> rfl

end Fteik.FloatOrder

namespace Fteik
open Scalar FloatOrder

theorem lt_float_iff (a b : Float) :
    lt a b = true ↔ ∃ ka kb, ukey a.toModel.unpack = some ka ∧ ukey b.toModel.unpack = some kb ∧ klt ka kb := by
  show decide (Float.lt a b = true) = true ↔ _
  unfold Float.lt
  rw [decide_eq_true_iff, decide_eq_true_iff]
  show a.toModel.unpack.lt b.toModel.unpack = true ↔ _
  rw [unpacked_lt_eq]; cases ukey a.toModel.unpack <;> cases ukey b.toModel.unpack <;> simp

theorem ltTrans_float : LtTrans Float := by
  intro a b c h1 h2
  rw [lt_float_iff] at *
  obtain ⟨ka, kb, ha, hb, hab⟩ := h1
  obtain ⟨kb', kc, hb', hc, hbc⟩ := h2
  cases hb.symm.trans hb'
  exact ⟨ka, kc, ha, hc, _root_.trans hab hbc⟩

theorem ltIrrefl_float : LtIrrefl Float := by
  intro a
  cases h : lt a a
  · rfl
  · obtain ⟨ka, kb, ha, hb, hab⟩ := (lt_float_iff a a).mp h
    cases ha.symm.trans hb
    exact (irrefl _ hab).elim

theorem float_toFin_inj : Function.Injective (fun f : Float => f.toModel.toBits.toFin) := by
  intro a b h
  cases a with | ofModel ma => cases b with | ofModel mb =>
  cases ma; cases mb
  cases UInt64.toFin_inj.mp h
  rfl

theorem ltWf_float : WellFounded (fun a b : Float => Scalar.lt a b = true) :=
  haveI : Finite Float := Finite.of_injective _ float_toFin_inj
  haveI : IsTrans Float (fun a b => lt a b = true) := ⟨ltTrans_float⟩
  haveI : Std.Irrefl (fun a b : Float => lt a b = true) := ⟨fun a h => Bool.false_ne_true ((ltIrrefl_float a).symm.trans h)⟩
  Finite.wellFounded_of_trans_of_irrefl _

end Fteik
