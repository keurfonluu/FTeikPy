import FteikVerif.Proofs.GenEquivSolver2
import FteikVerif.Generated.KSolver2
import FteikVerif.Proofs.Sweep
/-!
`Gen.F2.sweep2d` is the translated body of `sweep2d` in `_fteik2d.py` (the four quadrant loops calling `sweep`, in two
nests over `j`).  It equals the model's `sweep2d` (a fold of `nodeUpdate2` over `schedule2`) on every rectangular
state - so the visiting order, the direction constants and the arguments handed to `sweep` in the
source are, provably, those of the model the C04/C05/C07 theorems are about.
-/
namespace Fteik
open Scalar

variable {α : Type} [Scalar α]

def Grid2.IsRect {β : Type} (g : Grid2 β) (nz nx : Nat) : Prop := g.size = nz ∧ ∀ k, k < nz → (g.getD k #[]).size = nx

theorem Grid2.IsRect.inB {β : Type} {g : Grid2 β} {nz nx : Nat} (h : g.IsRect nz nx) {i j : Nat} (hi : i < nz) (hj : j < nx) :
    g.InB i j := ⟨by rw [h.1]; exact hi, by rw [h.2 i hi]; exact hj⟩

theorem Grid2.IsRect.set {β : Type} {g : Grid2 β} {nz nx : Nat} (h : g.IsRect nz nx) (i j : Nat) (v : β) :
    (g.set i j v).IsRect nz nx :=
  ⟨by rw [Grid2.size_set]; exact h.1, fun k hk => by rw [Grid2.row_set]; exact h.2 k hk⟩

theorem Grid2.full_rect {β : Type} (nz nx : Nat) (v : β) : (Grid2.full nz nx v).IsRect nz nx := by
  unfold Grid2.full Grid2.IsRect
  refine ⟨by simp, fun k hk => ?_⟩
  simp [Array.getD_eq_getD_getElem?, hk]

/-- the state pair the translated code threads through its loops -/
def St2.toP (s : St2 α) : Grid2 α × Grid2 (Int × Int) := (s.tt, s.sgn)

/-- the invariant of every loop of the translated `sweep2d`: its state pair `st` is the model state `s`, and that is
an `nz × nx` rectangle (so the stores of `sweep` are in range) -/
def St2.Sim (nz nx : Nat) (st : Grid2 α × Grid2 (Int × Int)) (s : St2 α) : Prop := st = s.toP ∧ s.tt.IsRect nz nx

theorem St2.Sim.node (hf : FarLaw α) {p : Par2 α} (slow : Grid2 α) (grad : Bool) (d : Dir2)
    {dargs : α × α × α × α × α × α} (hd : dargs = (p.dz, p.dx, p.dzi, p.dxi, p.dz2i, p.dx2i)) {i j : Nat}
    (hi : i < p.nz) (hj : j < p.nx) {st : Grid2 α × Grid2 (Int × Int)} {s : St2 α} (h : St2.Sim p.nz p.nx st s) :
    St2.Sim p.nz p.nx
      (Gen.F2.sweep p.big st.1 st.2 slow dargs (ofInt p.zsi) (ofInt p.xsi) p.zsa p.xsa p.vzero (Int.ofNat i) (Int.ofNat j)
        d.sgnvz d.sgnvx d.sgntz d.sgntx p.nz p.nx grad)
      (nodeUpdate2 p slow grad s i j d) := by
  obtain ⟨rfl, hr⟩ := h
  subst hd
  exact ⟨gen_sweep2 hf p slow grad s i j d (hr.inB hi hj), by rw [nodeUpdate2_tt]; exact hr.set ..⟩

-- From here on the translated `sweep` is a black box characterised by `gen_sweep2`, and `pyRange` one characterised by
-- `pyRange_*`.  This also keeps unification against the translated loops cheap: their bodies end in
-- `let (tt, ttsgn) := sweep …; (tt, ttsgn)`, resp. `(res.1, res.2)` for an inner loop `res`, which is `sweep …`, resp.
-- `res`, by eta as soon as neither can be unfolded in search of a pair constructor.
attribute [local irreducible] Gen.F2.sweep pyRange

/-- `h1`-`h4`: the `dargs` of the model's `p` are the ones the source's `sweep2d` computes from the spacings -/
theorem St2.Sim.sweep2d (hf : FarLaw α) {p : Par2 α} (slow : Grid2 α) (grad : Bool)
    (h1 : p.dzi = one / p.dz) (h2 : p.dxi = one / p.dx) (h3 : p.dz2i = p.dzi / p.dz) (h4 : p.dx2i = p.dxi / p.dx)
    {st : Grid2 α × Grid2 (Int × Int)} {s : St2 α} (h : St2.Sim p.nz p.nx st s) :
    St2.Sim p.nz p.nx
      (Gen.F2.sweep2d p.big st.1 st.2 slow p.dz p.dx (ofInt p.zsi) (ofInt p.xsi) p.zsa p.xsa p.vzero p.nz p.nx grad)
      (Fteik.sweep2d p slow grad s) := by
  have hd : (p.dz, p.dx, one / p.dz, one / p.dx, one / p.dz / p.dz, one / p.dx / p.dx)
      = (p.dz, p.dx, p.dzi, p.dxi, p.dz2i, p.dx2i) := by rw [h3, h4, h1, h2]
  -- the model's fold over `schedule2` as the same loop nest as the source's (the translated side stays folded:
  -- rewriting inside it would copy its `let`-bound intermediate states)
  unfold Fteik.sweep2d schedule2
  simp only [List.foldl_append, List.foldl_flatMap, List.foldl_map]
  refine foldl_related_map _ Int.ofNat (pyRange_down _)
    (foldl_related_map _ Int.ofNat (pyRange_up _) h fun j hj a b hab => ?_) fun j hj a b hab => ?_
  · refine foldl_related_map _ Int.ofNat (pyRange_down _)
      (foldl_related_map _ Int.ofNat (pyRange_up _) hab fun i hi a b hab => ?_) fun i hi a b hab => ?_
    · exact hab.node hf slow grad dirSE hd (lt_of_mem_rangeUp hi) (lt_of_mem_rangeUp hj)
    · exact hab.node hf slow grad dirNE hd (lt_of_mem_rangeDown hi) (lt_of_mem_rangeUp hj)
  · refine foldl_related_map _ Int.ofNat (pyRange_down _)
      (foldl_related_map _ Int.ofNat (pyRange_up _) hab fun i hi a b hab => ?_) fun i hi a b hab => ?_
    · exact hab.node hf slow grad dirSW hd (lt_of_mem_rangeUp hi) (lt_of_mem_rangeDown hj)
    · exact hab.node hf slow grad dirNW hd (lt_of_mem_rangeDown hi) (lt_of_mem_rangeDown hj)

theorem gen_sweep2d (hf : FarLaw α) (p : Par2 α) (slow : Grid2 α) (grad : Bool) (s : St2 α)
    (hr : s.tt.IsRect p.nz p.nx)
    (h1 : p.dzi = one / p.dz) (h2 : p.dxi = one / p.dx) (h3 : p.dz2i = p.dzi / p.dz) (h4 : p.dx2i = p.dxi / p.dx) :
    Gen.F2.sweep2d p.big s.tt s.sgn slow p.dz p.dx (ofInt p.zsi) (ofInt p.xsi) p.zsa p.xsa p.vzero p.nz p.nx grad
      = (sweep2d p slow grad s).toP :=
  (St2.Sim.sweep2d hf slow grad h1 h2 h3 h4 ⟨rfl, hr⟩).1

/-! ## the sweep iteration `for _ in range(nsweep): sweep2d(...)` of `fteik2d` -/

theorem sweep2d_rect (p : Par2 α) (slow : Grid2 α) (grad : Bool) (s : St2 α) {nz nx : Nat}
    (h : s.tt.IsRect nz nx) : (sweep2d p slow grad s).tt.IsRect nz nx := by
  rw [sweep2d_tt_eq_sweepTT]
  exact List.foldlRecOn (motive := (Grid2.IsRect · nz nx)) _ _ h fun _ hg _ _ => hg.set ..

theorem foldl_const_iter {β γ : Type} (f : β → β) (l : List γ) (x : β) :
    l.foldl (fun a _ => f a) x = iter f l.length x := by
  induction l generalizing x with
  | nil => rfl
  | cons _ l ih => simp only [List.foldl_cons, List.length_cons]; rw [ih]; rfl

theorem iter_sweep2d_rect (p : Par2 α) (slow : Grid2 α) (grad : Bool) (n : Nat) (s : St2 α)
    (h : s.tt.IsRect p.nz p.nx) : (iter (sweep2d p slow grad) n s).tt.IsRect p.nz p.nx := by
  induction n generalizing s with
  | zero => exact h
  | succ n ih => exact ih _ (sweep2d_rect p slow grad s h)

/-- the loop `for _ in range(n): st = f(st)` against `n` iterations of the model's step -/
theorem foldl_pyRange_iter {σ τ : Type} (R : σ → τ → Prop) {f : σ → Int → σ} (g : τ → τ) (n : Nat) {a : σ} {b : τ}
    (hab : R a b) (h : ∀ i a b, R a b → R (f a i) (g b)) : R ((pyRange 0 (n : Int) 1).foldl f a) (iter g n b) := by
  -- `iter g n b` back as a fold over `List.range n`, the shape `foldl_related_map` matches with the source's loop
  rw [← (foldl_const_iter g (List.range n) b).trans (congrArg (iter g · b) List.length_range)]
  exact foldl_related_map R Int.ofNat (pyRange_zero n) hab fun _ _ _ _ => h _ _ _

theorem gen_fteik2d_sweeps (hf : FarLaw α) (p : Par2 α) (slow : Grid2 α) (grad : Bool) (n : Nat) (s : St2 α)
    (hr : s.tt.IsRect p.nz p.nx)
    (h1 : p.dzi = one / p.dz) (h2 : p.dxi = one / p.dx) (h3 : p.dz2i = p.dzi / p.dz) (h4 : p.dx2i = p.dxi / p.dx) :
    Gen.F2.fteik2d_loop6 p.big p.dx p.dz grad (n : Int) p.nx p.nz slow s.tt s.sgn p.vzero p.xsa p.xsi p.zsa p.zsi
      = (iter (sweep2d p slow grad) n s).toP :=
  (foldl_pyRange_iter (St2.Sim p.nz p.nx) _ n ⟨rfl, hr⟩ fun _ _ _ h => h.sweep2d hf slow grad h1 h2 h3 h4).1

end Fteik
