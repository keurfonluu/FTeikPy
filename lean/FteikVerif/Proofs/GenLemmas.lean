import FteikVerif.Model.Fteik3D
import FteikVerif.Model.Interp
import FteikVerif.Proofs.GridLemmas
namespace Fteik
open Scalar

variable {α : Type} [Scalar α]

/-- The only fact about the scalar type the equivalence of the kernels (`gen_sweep2`) needs beyond its syntax: the test
`np.abs(i - zsi) > epsin` (`epsin = 5`) on floats that hold integers decides the integer inequality. -/
def FarLaw (α : Type) [Scalar α] : Prop :=
  ∀ i z : Int, gt (abs ((ofInt i : α) - ofInt z)) (ofInt 5) = decide ((i - z).natAbs > 5)

theorem toNat_max_pred (j : Nat) : (max ((j : Int) - 1) 0).toNat = Nat.max (j - 1) 0 := by
  -- `max · 0` is what `toNat` does anyway
  rw [← Int.toNat_eq_max, Int.toNat_natCast, Int.pred_toNat, Int.toNat_natCast]
  exact (Nat.max_eq_left (Nat.zero_le _)).symm

theorem toNat_max_cast (a b : Nat) : (max (a : Int) (b : Int)).toNat = max a b := by omega
theorem toNat_succ' (a : Nat) : ((a : Int) + 1).toNat = a + 1 := Int.toNat_natCast_add_one
theorem natCast_pred (j : Nat) (h : 1 ≤ j) : ((j - 1 : Nat) : Int) = (j : Int) - 1 := Int.natCast_sub h
theorem toNat_min (a b : Int) : (min a b).toNat = Nat.min a.toNat b.toNat := by
  rcases Int.le_total a b with h | h
  · rw [Int.min_eq_left h]; exact (Nat.min_eq_left (Int.toNat_le_toNat h)).symm
  · rw [Int.min_eq_right h]; exact (Nat.min_eq_right (Int.toNat_le_toNat h)).symm
theorem toNat_min_cells (j n : Nat) : (min (j : Int) ((n : Int) - 2)).toNat = Nat.min j (n - 2) :=
  (toNat_min _ _).trans (congrArg (Nat.min j) (Int.toNat_sub n 2))

/-! One axis of the interpolators.  The source computes `i1 = searchsorted(x, xq, "right") - 1` and `nx = shape - 1` as
signed integers and tests `i1 == nx`; the model's `axisCell` does the same on naturals.  Inside the hull
`searchsorted ≥ 1`, so the two agree; with these three facts and the two equations for `x1`, `x2` (`axisCell_x1/x2`) the
proofs never unfold `axisCell`. -/

theorem axis_int (x : Array α) (n : Nat) (xq : α) (hx : 0 < x.size) (hn : 0 < n) (hin : inside x xq = true) :
    (Int.ofNat (searchsortedRight x xq) - 1 == Int.ofNat n - 1) = (axisCell x (n - 1) xq).edge
    ∧ (Int.ofNat (searchsortedRight x xq) - 1).toNat = (axisCell x (n - 1) xq).i1
    ∧ (Int.ofNat (searchsortedRight x xq) - 1 + 1).toNat = (axisCell x (n - 1) xq).i1 + 1 := by
  have hs : 1 ≤ searchsortedRight x xq := ss_pos x xq hx (by simp only [inside, Bool.and_eq_true] at hin; exact hin.1)
  refine ⟨?_, by rw [Int.pred_toNat]; rfl, by rw [Int.sub_add_cancel]; exact (Nat.sub_add_cancel hs).symm⟩
  -- both sides of the test are predecessors of positive naturals
  show (_ == _) = (searchsortedRight x xq - 1 == n - 1)
  rw [Int.ofNat_eq_natCast, Int.ofNat_eq_natCast, ← natCast_pred _ hs, ← natCast_pred _ hn]
  exact Bool.eq_iff_iff.mpr (by rw [beq_iff_eq, beq_iff_eq, Int.ofNat_inj])

theorem pyRange_asc (a b : Int) : pyRange a b 1 = (List.range (b - a).toNat).map fun (k : Nat) => a + k := by
  unfold pyRange
  rw [if_pos (by decide), Int.add_sub_cancel, Int.ediv_one]
  simp only [Int.one_mul]

theorem pyRange_nat (a b : Nat) : pyRange (a : Int) (b : Int) 1 = (rangeFromTo a b).map Int.ofNat := by
  rw [pyRange_asc, rangeFromTo, List.map_map, Int.toNat_sub]
  exact List.map_congr_left fun k _ => Int.add_comm _ _

theorem pyRange_zero (n : Nat) : pyRange 0 (n : Int) 1 = (List.range n).map Int.ofNat :=
  (pyRange_nat 0 n).trans (congrArg (List.map Int.ofNat) (List.map_id _))

theorem pyRange_up (n : Nat) : pyRange 1 (n : Int) 1 = (rangeUp n).map Int.ofNat := pyRange_nat 1 n

/-- `range(a + 2, n)` and, below, `range(a - 1, -1, -1)`: the row and column loops on either side of the source cell -/
theorem pyRange_fromTo (a n : Nat) : pyRange ((a : Int) + 2) (n : Int) 1 = (rangeFromTo (a + 2) n).map Int.ofNat :=
  pyRange_nat (a + 2) n

theorem pyRange_desc (a b : Int) : pyRange a b (-1) = (List.range (a - b).toNat).map fun (k : Nat) => a - k := by
  unfold pyRange
  rw [if_neg (by decide), if_pos (by decide)]
  simp only [Int.neg_neg, Int.ediv_one, Int.add_sub_cancel]
  exact List.map_congr_left fun k _ => by omega

theorem rev_range (m : Nat) : (List.range m).reverse = (List.range m).map (fun k => m - 1 - k) := by
  rw [List.range_eq_range', List.reverse_range']
  simp [List.range_eq_range']

theorem pyRange_downFrom (a : Nat) : pyRange ((a : Int) - 1) (-1) (-1) = (rangeDownFrom a).map Int.ofNat := by
  rw [pyRange_desc, rangeDownFrom, rev_range, List.map_map, Int.sub_neg, Int.sub_add_cancel, Int.toNat_natCast]
  exact List.map_congr_left fun k hk => by
    have := List.mem_range.mp hk
    simp only [Function.comp, Int.ofNat_eq_natCast]
    omega

theorem pyRange_down (n : Nat) : pyRange ((n : Int) - 2) (-1) (-1) = (rangeDown n).map Int.ofNat := by
  cases n with
  | zero => rfl
  | succ n => rw [Int.natCast_add_one, show (n : Int) + 1 - 2 = n - 1 from Int.add_sub_assoc ..]; exact pyRange_downFrom n

/-- `List.foldl_rel` with the first list given as an image of the second: the translated loops run over `pyRange …` (a
`List Int`), the model's over lists of naturals, and `hl` is one of the `pyRange_*` lemmas.  Both folds are only
unified against, never rewritten, so the loop bodies may be arbitrarily large. -/
theorem foldl_related_map {σ τ ι κ : Type} (R : σ → τ → Prop) {f : σ → ι → σ} {g : τ → κ → τ} (c : κ → ι)
    {l' : List ι} {l : List κ} (hl : l' = l.map c) {a : σ} {b : τ} (hab : R a b)
    (h : ∀ x ∈ l, ∀ a b, R a b → R (f a (c x)) (g b x)) : R (l'.foldl f a) (l.foldl g b) := by
  subst hl
  rw [List.foldl_map]
  exact List.foldl_rel hab h

/-- `List.foldl_hom` in the same way; `l'` and `l` are read off the goal, so the translated list is never restated -/
theorem foldl_hom_map {σ τ ι κ : Type} (r : τ → σ) (c : κ → ι) {f : σ → ι → σ} {g : τ → κ → τ} {l' : List ι} {l : List κ}
    (hl : l' = l.map c) (h : ∀ b x, f (r b) (c x) = r (g b x)) (b : τ) : l'.foldl f (r b) = r (l.foldl g b) :=
  foldl_related_map (fun a b => a = r b) c hl rfl fun x _ _ b hab => hab ▸ h b x

theorem foldlM_error {σ ι ε : Type} {g : σ → ι → Except ε σ} {l : List ι} {acc : σ} {e : ε}
    (h : l.foldlM g acc = .error e) : ∃ i ∈ l, ∃ s, g s i = .error e := by
  induction l generalizing acc with
  | nil => cases h
  | cons k l ih =>
    rw [List.foldlM_cons] at h
    cases hk : g acc k with
    | error e' => rw [hk] at h; exact ⟨k, List.mem_cons_self, acc, hk.trans h⟩
    | ok s =>
      rw [hk] at h
      obtain ⟨i, hi, hs⟩ := ih h
      exact ⟨i, List.mem_cons_of_mem _ hi, hs⟩

/-- the loop `for i in l: out[i] = f(i)` -/
theorem foldl_set_each {β : Type} (f : Nat → β) (l : List Nat) (acc : Array β) :
    (l.foldl (fun (out : Array β) (i : Nat) => out.setIfInBounds i (f i)) acc).size = acc.size
    ∧ ∀ j, j < acc.size → (l.foldl (fun (out : Array β) (i : Nat) => out.setIfInBounds i (f i)) acc)[j]?
        = if j ∈ l then some (f j) else acc[j]? := by
  induction l generalizing acc with
  | nil => exact ⟨rfl, fun j _ => rfl⟩
  | cons k l ih =>
    obtain ⟨s, h⟩ := ih (acc.setIfInBounds k (f k))
    rw [Array.size_setIfInBounds] at s h
    refine ⟨s, fun j hj => (h j hj).trans ?_⟩
    -- a slot the rest of the loop stores again gets the same value again
    by_cases hl : j ∈ l
    · rw [if_pos hl, if_pos (List.mem_cons_of_mem _ hl)]
    · rw [if_neg hl, Array.getElem?_setIfInBounds]
      by_cases hk : k = j
      · subst hk; rw [if_pos rfl, if_pos hj, if_pos List.mem_cons_self]
      · rw [if_neg hk, if_neg fun h => (List.mem_cons.mp h).elim (fun e => hk e.symm) hl]

/-- the translated loop `for i in range(n): out[i] = f(i)` on a fresh buffer of length `n`, as the `prange` wrappers of
the interpolators have it -/
theorem range_slots {β : Type} (f : Nat → β) (n : Nat) (d : β) :
    ((pyRange 0 (Int.ofNat n) 1).foldl (fun (out : Array β) (i : Int) => out.setIfInBounds i.toNat (f i.toNat))
      (Array.replicate (Int.ofNat n).toNat d)).size = n
    ∧ ∀ i, i < n → ((pyRange 0 (Int.ofNat n) 1).foldl (fun (out : Array β) (i : Int) => out.setIfInBounds i.toNat (f i.toNat))
      (Array.replicate (Int.ofNat n).toNat d))[i]? = some (f i) := by
  simp only [Int.ofNat_eq_natCast, pyRange_zero, List.foldl_map, Int.toNat_natCast]
  obtain ⟨s, h⟩ := foldl_set_each f (List.range n) (Array.replicate n d)
  rw [Array.size_replicate] at s h
  exact ⟨s, fun i hi => (h i hi).trans (if_pos (List.mem_range.mpr hi))⟩

end Fteik
