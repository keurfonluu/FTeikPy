import FteikVerif.Generated.KSolver2
import FteikVerif.Generated.KSolver3
/-!
`Gen.F2.fteik2d` / `Gen.F3.fteik3d` are the complete bodies of `fteik2d` / `fteik3d` (domain check,
source classification, initialisation loops, sweeps, gradient assembly) as translated by
`harness/translate.py` from `/repo`'s working tree on every run.  The decision logic of the domain
check is proved here for the translated code itself, for every scalar type and every input:
the call fails iff the source is outside the closed model, and then with "source out of bound"
(C03 totality on the documented domain as far as exceptions raised by the kernel's own checks go;
C13: invalid requests raise).
-/
namespace Fteik
open Scalar

variable {α : Type} [Scalar α]

theorem guarded_error {ε β : Type} {b : Bool} {e0 : ε} {x body : Except ε β} (hb : ∃ v, body = .ok v)
    (hx : x = if (!b) = true then .error e0 else body) :
    ((∃ e, x = .error e) ↔ b = false) ∧ ∀ e, x = .error e → e = e0 := by
  obtain ⟨v, rfl⟩ := hb
  subst hx
  cases b
  · exact ⟨⟨fun _ => rfl, fun _ => ⟨e0, rfl⟩⟩, fun e h => (Except.error.inj h).symm⟩
  · exact ⟨⟨fun ⟨_, h⟩ => (nomatch h), fun h => (nomatch h)⟩, fun e h => (nomatch h)⟩

/-- the source lies in the closed model, as the kernel tests it (`0 <= src <= d * n` per axis) -/
def inModel2 (slow : Grid2 α) (dz dx zs xs : α) : Bool :=
  (le zero zs && le zs (dz * ofInt (Int.ofNat slow.size)))
    && (le zero xs && le xs (dx * ofInt (Int.ofNat (slow.getD 0 #[]).size)))

theorem gen_fteik2d_head (big : α) (slow : Grid2 α) (dz dx zs xs : α) (nsweep : Int) (grad : Bool) :
    ∃ body : Except Err (Grid2 α × Grid2 (α × α) × α), (∃ v, body = .ok v) ∧
      Gen.F2.fteik2d big slow dz dx zs xs nsweep grad =
        if (!(inModel2 slow dz dx zs xs)) = true then .error .sourceOutOfBound else body := by
  unfold Gen.F2.fteik2d inModel2
  exact ⟨_, ⟨_, rfl⟩, rfl⟩

theorem gen_fteik2d_error_iff (big : α) (slow : Grid2 α) (dz dx zs xs : α) (nsweep : Int) (grad : Bool) :
    (∃ e, Gen.F2.fteik2d big slow dz dx zs xs nsweep grad = .error e) ↔ inModel2 slow dz dx zs xs = false := by
  obtain ⟨body, hb, h⟩ := gen_fteik2d_head big slow dz dx zs xs nsweep grad
  exact (guarded_error hb h).1

theorem gen_fteik2d_error_kind (big : α) (slow : Grid2 α) (dz dx zs xs : α) (nsweep : Int) (grad : Bool) (e : Err)
    (he : Gen.F2.fteik2d big slow dz dx zs xs nsweep grad = .error e) : e = .sourceOutOfBound := by
  obtain ⟨body, hb, h⟩ := gen_fteik2d_head big slow dz dx zs xs nsweep grad
  exact (guarded_error hb h).2 e he

/-- the slowness returned as `vzero` is that of the cell `(min(int(zsa), nz-1), min(int(xsa), nx-1))`, `zsa`
the source position in grid units clamped to the far boundary - whatever the rest of the solver does -/
theorem gen_fteik2d_vzero (big : α) (slow : Grid2 α) (dz dx zs xs : α) (nsweep : Int) (grad : Bool)
    (hin : inModel2 slow dz dx zs xs = true) :
    let nz : Int := Int.ofNat slow.size
    let nx : Int := Int.ofNat (slow.getD 0 #[]).size
    let zsa := if ge (zs / dz) (ofInt nz) then ofInt nz else zs / dz
    let xsa := if ge (xs / dx) (ofInt nx) then ofInt nx else xs / dx
    (Gen.F2.fteik2d big slow dz dx zs xs nsweep grad).map (fun o => o.2.2)
      = .ok (slow.get zero (min (trunc zsa) (nz - 1)).toNat (min (trunc xsa) (nx - 1)).toNat) := by
  -- unfolded, the call is the conditional on the domain check; its `else` branch ends in `Except.ok (tt, ttgrad, vzero)`
  have hc : ¬ (!(inModel2 slow dz dx zs xs)) = true := by rw [hin]; decide
  exact congrArg (Except.map fun o => o.2.2) (if_neg hc : Gen.F2.fteik2d big slow dz dx zs xs nsweep grad = _)

def inModel3 (slow : Grid3 α) (dz dx dy zs xs ys : α) : Bool :=
  (le zero zs && le zs (dz * ofInt (Int.ofNat slow.size)))
    && (le zero xs && le xs (dx * ofInt (Int.ofNat (slow.getD 0 #[]).size)))
    && (le zero ys && le ys (dy * ofInt (Int.ofNat ((slow.getD 0 #[]).getD 0 #[]).size)))

theorem gen_fteik3d_head (big : α) (slow : Grid3 α) (dz dx dy zs xs ys : α) (nsweep : Int) (grad : Bool) :
    ∃ body : Except Err (Grid3 α × Grid3 (α × α × α) × α), (∃ v, body = .ok v) ∧
      Gen.F3.fteik3d big slow dz dx dy zs xs ys nsweep grad =
        if (!(inModel3 slow dz dx dy zs xs ys)) = true then .error .sourceOutOfBound else body := by
  unfold Gen.F3.fteik3d inModel3
  exact ⟨_, ⟨_, rfl⟩, rfl⟩

theorem gen_fteik3d_error_iff (big : α) (slow : Grid3 α) (dz dx dy zs xs ys : α) (nsweep : Int) (grad : Bool) :
    (∃ e, Gen.F3.fteik3d big slow dz dx dy zs xs ys nsweep grad = .error e) ↔ inModel3 slow dz dx dy zs xs ys = false := by
  obtain ⟨body, hb, h⟩ := gen_fteik3d_head big slow dz dx dy zs xs ys nsweep grad
  exact (guarded_error hb h).1

theorem gen_fteik3d_error_kind (big : α) (slow : Grid3 α) (dz dx dy zs xs ys : α) (nsweep : Int) (grad : Bool) (e : Err)
    (he : Gen.F3.fteik3d big slow dz dx dy zs xs ys nsweep grad = .error e) : e = .sourceOutOfBound := by
  obtain ⟨body, hb, h⟩ := gen_fteik3d_head big slow dz dx dy zs xs ys nsweep grad
  exact (guarded_error hb h).2 e he

end Fteik
