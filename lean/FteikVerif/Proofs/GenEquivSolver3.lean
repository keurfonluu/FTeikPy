import FteikVerif.Generated.KSweep3
import FteikVerif.Proofs.GenLemmas
/-!
As `GenEquivSolver2.lean`, for `_fteik3d.py` (`Generated/KSweep3.lean`).  One difference: where the 3-D model stores
one value chosen by a chain of conditionals, the source is a chain of conditional stores; `Grid3.set_ite`, `set_snd`,
`set_thd` bring the latter to the former.
-/
namespace Fteik
open Scalar

variable {α : Type} [Scalar α]

theorem gen_tAna3 (i j k : Int) (dz dx dy zsa xsa ysa vz : α) :
    Gen.F3.t_ana i j k dz dx dy zsa xsa ysa vz = tAna3 i j k dz dx dy zsa xsa ysa vz := rfl

theorem gen_tAnad3 (i j k : Int) (dz dx dy zsa xsa ysa vz : α) :
    Gen.F3.t_anad i j k dz dx dy zsa xsa ysa vz = tAnad3 i j k dz dx dy zsa xsa ysa vz := by
  cases h : gt (tAna3 i j k dz dx dy zsa xsa ysa vz) zero <;>
    simp only [Gen.F3.t_anad, tAnad3, gen_tAna3, h, ↓reduceIte, Bool.false_eq_true]

theorem gen_sweep3 (p : Par3 α) (slow : Grid3 α) (grad : Bool) (s : St3 α)
    (i j k : Nat) (d : Dir3) (hin : s.tt.InB i j k) :
    Gen.F3.sweep p.big s.tt s.sgn slow
        (p.dz, p.dx, p.dy, p.dz2i, p.dx2i, p.dy2i, p.dz2dx2, p.dz2dy2, p.dx2dy2, p.dsum)
        i j k d.sgnvz d.sgnvx d.sgnvy d.sgntz d.sgntx d.sgnty p.nz p.nx p.ny grad
      = ((nodeUpdate3 p slow grad s i j k d).tt, (nodeUpdate3 p slow grad s i j k d).sgn) := by
  unfold Gen.F3.sweep nodeUpdate3 candidates3 planeOp nb
  simp only [toNat_max_pred, toNat_min_cells, Int.toNat_natCast,
    Grid3.get_set_self hin, Grid3.set_snd, Grid3.set_thd, Grid3.set_ite, Int.ofNat_eq_natCast]

end Fteik
