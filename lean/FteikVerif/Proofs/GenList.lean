import FteikVerif.Generated.KList2
import FteikVerif.Generated.KList3
import FteikVerif.Proofs.GenSolver
import FteikVerif.Proofs.GenLemmas
/-!
A list call is the map of the single calls.  `Gen.F2.fteik2d_vectorized` / `Gen.F3.fteik3d_vectorized` are the
translated bodies of the wrappers behind `Eikonal2D/3D.solve(list of sources)`: the sequential pre-check loop
(`raise ValueError("source out of bound")`), the `prange` loop calling the single-source solver into slot `i` of the
output buffers (sequential semantics; that every schedule of the parallel loop gives the same memory is
`Props/C08.lean`).  Proved here about the translation:

* `gen_list2_ok_slots` / `gen_list3_ok_slots`: if the list call returns, every slot `i` holds exactly what the
  single call for source `i` returns (traveltimes, gradient, `vzero`), and the three buffers have one slot per source;
* `gen_list2_error` / `gen_list3_error`: if the list call fails, it fails with "source out of bound" and the single
  call for some source of the list fails with the same error (that source lies outside the model:
  `gen_fteik2d_error_iff`, `gen_fteik3d_error_iff`).
-/
namespace Fteik

variable {α : Type} [Scalar α]

section pattern
variable {β γ δ : Type}

/-- `g` is the body of `for i in prange(nsrc): tt[i], ttgrad[i], vzero[i] = f(i)`, where `f` can raise -/
def SlotStep (f : Nat → Except Err (β × γ × δ))
    (g : Array β × Array γ × Array δ → Nat → Except Err (Array β × Array γ × Array δ)) : Prop :=
  ∀ acc i, g acc i = (f i).map fun r => (acc.1.setIfInBounds i r.1, acc.2.1.setIfInBounds i r.2.1, acc.2.2.setIfInBounds i r.2.2)

theorem foldlM_slots {β γ δ : Type} (f : Nat → Except Err (β × γ × δ))
    (g : Array β × Array γ × Array δ → Nat → Except Err (Array β × Array γ × Array δ)) (hg : SlotStep f g) (l : List Nat)
    (acc r : Array β × Array γ × Array δ) (h : l.foldlM g acc = Except.ok r) (hnd : l.Nodup) :
    r.1.size = acc.1.size ∧ r.2.1.size = acc.2.1.size ∧ r.2.2.size = acc.2.2.size
    ∧ (∀ i ∈ l, ∃ a b c, f i = .ok (a, b, c)
        ∧ (i < acc.1.size → r.1[i]? = some a) ∧ (i < acc.2.1.size → r.2.1[i]? = some b) ∧ (i < acc.2.2.size → r.2.2[i]? = some c))
    ∧ (∀ j, j ∉ l → r.1[j]? = acc.1[j]? ∧ r.2.1[j]? = acc.2.1[j]? ∧ r.2.2[j]? = acc.2.2[j]?) := by
  induction l generalizing acc with
  | nil => cases h; exact ⟨rfl, rfl, rfl, fun i hi => absurd hi List.not_mem_nil, fun j _ => ⟨rfl, rfl, rfl⟩⟩
  | cons k l ih =>
    rw [List.foldlM_cons, hg] at h
    cases hf : f k with
    | error e => rw [hf] at h; cases h
    | ok v =>
      rw [hf] at h
      obtain ⟨hk, hl⟩ := List.nodup_cons.mp hnd
      -- the rest of the run starts from `acc` with `v` stored in slot `k`, and leaves that slot alone
      obtain ⟨s1, s2, s3, hin, hout⟩ := ih _ h hl
      simp only [Array.size_setIfInBounds] at s1 s2 s3 hin
      refine ⟨s1, s2, s3, fun i hi => ?_, fun j hj => ?_⟩
      · rcases List.mem_cons.mp hi with rfl | hi
        · obtain ⟨o1, o2, o3⟩ := hout i hk
          exact ⟨v.1, v.2.1, v.2.2, hf, fun h => o1.trans (Array.getElem?_setIfInBounds_self_of_lt h),
            fun h => o2.trans (Array.getElem?_setIfInBounds_self_of_lt h),
            fun h => o3.trans (Array.getElem?_setIfInBounds_self_of_lt h)⟩
        · exact hin i hi
      · obtain ⟨o1, o2, o3⟩ := hout j fun h => hj (List.mem_cons_of_mem _ h)
        have hkj : k ≠ j := fun e => hj (e ▸ List.mem_cons_self)
        exact ⟨o1.trans (Array.getElem?_setIfInBounds_ne hkj), o2.trans (Array.getElem?_setIfInBounds_ne hkj),
          o3.trans (Array.getElem?_setIfInBounds_ne hkj)⟩

/-! The list-call pattern: a pre-check loop that raises "source out of bound" at the first `i < n` with `c i = false`,
then a loop that stores the results of the single calls `f i` into slot `i` of three buffers of length `n`.  The two
list solvers are instances; `c`, `f`, the loop body `g` and the buffers are variables here. -/

def ListSpec (n : Nat) (f : Nat → Except Err (β × γ × δ)) (r : Except Err (Array β × Array γ × Array δ)) : Prop :=
  (∀ R, r = .ok R → R.1.size = n ∧ R.2.1.size = n ∧ R.2.2.size = n ∧
      ∀ i, i < n → ∃ t g v, f i = .ok (t, g, v) ∧ R.1[i]? = some t ∧ R.2.1[i]? = some g ∧ R.2.2[i]? = some v)
  ∧ (∀ e, r = .error e → e = .sourceOutOfBound ∧ ∃ i, i < n ∧ f i = .error .sourceOutOfBound)

/-- a failing pre-check loop `for i in range(n): if not c(i): raise`, where `f` fails where `c` does -/
theorem precheck_error (c : Nat → Bool) (f : Nat → Except Err (β × γ × δ)) (hc : ∀ i, c i = false → ∃ e, f i = .error e)
    (hk : ∀ i e, f i = .error e → e = .sourceOutOfBound) (n : Nat) (e : Err)
    (h : (List.range n).foldlM (fun (_ : Unit) (i : Nat) => if (!(c i)) then Except.error Err.sourceOutOfBound else Except.ok ()) ()
      = .error e) : ListSpec n f (.error e) := by
  obtain ⟨i, hi, _, hs⟩ := foldlM_error h
  split at hs
  · rename_i hci
    obtain ⟨e', he'⟩ := hc i (by simpa using hci)
    obtain rfl := hk i e' he'
    obtain rfl := Except.error.inj hs
    exact ⟨nofun, fun e h => Except.error.inj h ▸ ⟨rfl, i, List.mem_range.mp hi, he'⟩⟩
  · cases hs

theorem slots_run (f : Nat → Except Err (β × γ × δ))
    (g : Array β × Array γ × Array δ → Nat → Except Err (Array β × Array γ × Array δ)) (hg : SlotStep f g)
    (hk : ∀ i e, f i = .error e → e = .sourceOutOfBound)
    (n : Nat) (acc : Array β × Array γ × Array δ) (h1 : acc.1.size = n) (h2 : acc.2.1.size = n) (h3 : acc.2.2.size = n) :
    ListSpec n f ((List.range n).foldlM g acc) := by
  refine ⟨fun R hR => ?_, fun e he => ?_⟩
  · obtain ⟨s1, s2, s3, hin, _⟩ := foldlM_slots f g hg _ acc R hR List.nodup_range
    refine ⟨s1.trans h1, s2.trans h2, s3.trans h3, fun i hi => ?_⟩
    obtain ⟨a, b, c, e, p1, p2, p3⟩ := hin i (List.mem_range.mpr hi)
    exact ⟨a, b, c, e, p1 (h1 ▸ hi), p2 (h2 ▸ hi), p3 (h3 ▸ hi)⟩
  · obtain ⟨i, hi, s, hs⟩ := foldlM_error he
    rw [hg] at hs
    cases hfi : f i with
    | error e' =>
      rw [hfi] at hs
      obtain rfl := Except.error.inj hs
      obtain rfl := hk i _ hfi
      exact ⟨rfl, i, List.mem_range.mp hi, hfi⟩
    | ok r => rw [hfi] at hs; cases hs

end pattern

theorem gen_list2_pattern (big : α) (slow : Grid2 α) (dz dx : α) (zsrc xsrc : Array α) (nsweep : Int) (grad : Bool) :
    ListSpec zsrc.size (fun i => Gen.F2.fteik2d big slow dz dx (get1 zsrc i) (get1 xsrc i) nsweep grad)
      (Gen.F2.fteik2d_vectorized big slow dz dx zsrc xsrc nsweep grad) := by
  have hk := fun i e => gen_fteik2d_error_kind big slow dz dx (get1 zsrc i) (get1 xsrc i) nsweep grad e
  unfold Gen.F2.fteik2d_vectorized Gen.F2.fteik2d_vectorized_loop1 Gen.F2.fteik2d_vectorized_loop2
  simp only [Int.ofNat_eq_natCast, pyRange_zero, List.foldlM_map, Int.toNat_natCast, ite_self]
  split
  · rename_i e h
    exact precheck_error (fun i => inModel2 slow dz dx (get1 zsrc i) (get1 xsrc i)) _
      (fun i hi => (gen_fteik2d_error_iff big slow dz dx _ _ nsweep grad).mpr hi) hk _ e h
  · generalize hrun : List.foldlM (m := Except Err) _ _ _ = run
    have spec : ListSpec _ _ run := hrun ▸ slots_run _ _ (fun acc i => by
      cases Gen.F2.fteik2d big slow dz dx (get1 zsrc i) (get1 xsrc i) nsweep grad <;> rfl) hk zsrc.size _
      (by simp) (by simp) (by simp)
    cases run <;> exact spec

theorem gen_list3_pattern (big : α) (slow : Grid3 α) (dz dx dy : α) (zsrc xsrc ysrc : Array α) (nsweep : Int) (grad : Bool) :
    ListSpec zsrc.size (fun i => Gen.F3.fteik3d big slow dz dx dy (get1 zsrc i) (get1 xsrc i) (get1 ysrc i) nsweep grad)
      (Gen.F3.fteik3d_vectorized big slow dz dx dy zsrc xsrc ysrc nsweep grad) := by
  have hk := fun i e => gen_fteik3d_error_kind big slow dz dx dy (get1 zsrc i) (get1 xsrc i) (get1 ysrc i) nsweep grad e
  unfold Gen.F3.fteik3d_vectorized Gen.F3.fteik3d_vectorized_loop1 Gen.F3.fteik3d_vectorized_loop2
  simp only [Int.ofNat_eq_natCast, pyRange_zero, List.foldlM_map, Int.toNat_natCast, ite_self]
  split
  · rename_i e h
    exact precheck_error (fun i => inModel3 slow dz dx dy (get1 zsrc i) (get1 xsrc i) (get1 ysrc i)) _
      (fun i hi => (gen_fteik3d_error_iff big slow dz dx dy _ _ _ nsweep grad).mpr hi) hk _ e h
  · generalize hrun : List.foldlM (m := Except Err) _ _ _ = run
    have spec : ListSpec _ _ run := hrun ▸ slots_run _ _ (fun acc i => by
      cases Gen.F3.fteik3d big slow dz dx dy (get1 zsrc i) (get1 xsrc i) (get1 ysrc i) nsweep grad <;> rfl) hk zsrc.size _
      (by simp) (by simp) (by simp)
    cases run <;> exact spec

theorem gen_list2_ok_slots (big : α) (slow : Grid2 α) (dz dx : α) (zsrc xsrc : Array α) (nsweep : Int) (grad : Bool)
    (T : Array (Grid2 α)) (G : Array (Grid2 (α × α))) (V : Array α)
    (h : Gen.F2.fteik2d_vectorized big slow dz dx zsrc xsrc nsweep grad = .ok (T, G, V)) :
    T.size = zsrc.size ∧ G.size = zsrc.size ∧ V.size = zsrc.size ∧
    ∀ i, i < zsrc.size → ∃ t g v,
      Gen.F2.fteik2d big slow dz dx (get1 zsrc i) (get1 xsrc i) nsweep grad = .ok (t, g, v)
      ∧ T[i]? = some t ∧ G[i]? = some g ∧ V[i]? = some v :=
  (gen_list2_pattern big slow dz dx zsrc xsrc nsweep grad).1 (T, G, V) h

theorem gen_list2_error (big : α) (slow : Grid2 α) (dz dx : α) (zsrc xsrc : Array α) (nsweep : Int) (grad : Bool) (e : Err)
    (h : Gen.F2.fteik2d_vectorized big slow dz dx zsrc xsrc nsweep grad = .error e) :
    e = .sourceOutOfBound ∧ ∃ i, i < zsrc.size ∧
      Gen.F2.fteik2d big slow dz dx (get1 zsrc i) (get1 xsrc i) nsweep grad = .error .sourceOutOfBound :=
  (gen_list2_pattern big slow dz dx zsrc xsrc nsweep grad).2 e h

theorem gen_list3_ok_slots (big : α) (slow : Grid3 α) (dz dx dy : α) (zsrc xsrc ysrc : Array α) (nsweep : Int) (grad : Bool)
    (T : Array (Grid3 α)) (G : Array (Grid3 (α × α × α))) (V : Array α)
    (h : Gen.F3.fteik3d_vectorized big slow dz dx dy zsrc xsrc ysrc nsweep grad = .ok (T, G, V)) :
    T.size = zsrc.size ∧ G.size = zsrc.size ∧ V.size = zsrc.size ∧
    ∀ i, i < zsrc.size → ∃ t g v,
      Gen.F3.fteik3d big slow dz dx dy (get1 zsrc i) (get1 xsrc i) (get1 ysrc i) nsweep grad = .ok (t, g, v)
      ∧ T[i]? = some t ∧ G[i]? = some g ∧ V[i]? = some v :=
  (gen_list3_pattern big slow dz dx dy zsrc xsrc ysrc nsweep grad).1 (T, G, V) h

theorem gen_list3_error (big : α) (slow : Grid3 α) (dz dx dy : α) (zsrc xsrc ysrc : Array α) (nsweep : Int) (grad : Bool) (e : Err)
    (h : Gen.F3.fteik3d_vectorized big slow dz dx dy zsrc xsrc ysrc nsweep grad = .error e) :
    e = .sourceOutOfBound ∧ ∃ i, i < zsrc.size ∧
      Gen.F3.fteik3d big slow dz dx dy (get1 zsrc i) (get1 xsrc i) (get1 ysrc i) nsweep grad = .error .sourceOutOfBound :=
  (gen_list3_pattern big slow dz dx dy zsrc xsrc ysrc nsweep grad).2 e h

end Fteik
