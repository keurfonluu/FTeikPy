import FteikVerif.Proofs.GenEquivLoops2
import FteikVerif.Proofs.GenSolver
/-!
`Gen.F2.fteik2d` - the complete body of `fteik2d` as translated from `/repo`'s working tree (domain
check, conversion to grid units, source classification, allocation, the five initialisation loops,
the sweep iteration, the gradient assembly) - **equals the hand-written model `fteik2d`** the property
theorems are about, the error case included, for every scalar type, every non-empty slowness model, every source,
every `nsweep`, with and without the gradient (`gen_fteik2d_eq`).

Hypotheses: the slowness grid has a first row with a first cell; `FarLaw` (see `GenLemmas`); the
integer part of the (clamped, non-negative) source coordinate is not negative.  The two about the scalar type
hold for the reals (`Proofs/GenReal.lean`, `Proofs/GenWholeReal.lean`); for `Float` neither is proved
(`FarLaw`, stated for all integers, fails there beyond 2^53).

The translated code threads tuples of arrays through its loops, the model one record `Init2`; a loop
theorem says that the translated loop, run on the components of a record, returns the components of
the model's fold (`Init2.toT`: the triple of the row and column loops, `Init2.toG`: the pair of the four-node loop).
What a fold leaves alone is `Init2.Frame`.
-/
namespace Fteik
open Scalar

variable {α : Type} [Scalar α]

def Init2.toT (s : Init2 α) : Array α × Grid2 α × Grid2 (Int × Int) := (s.td, s.tt, s.sgn)

def Init2.toG (s : Init2 α) : Grid2 α × Grid2 (α × α) := (s.tt, s.gradv)

/-- What the row and column loops leave alone on the way from `s` to `t`: the length of the work array `td`
(so the slots they read back exist throughout), `gradv`, and the shape of `tt` (so the sweeps that follow
find a rectangular grid). -/
structure Init2.Frame (s t : Init2 α) : Prop where
  td : t.td.size = s.td.size
  gradv : t.gradv = s.gradv
  rect : ∀ {nz nx : Nat}, s.tt.IsRect nz nx → t.tt.IsRect nz nx

section
omit [Scalar α]

namespace Init2.Frame
variable {s t u : Init2 α}

theorem trans (h : s.Frame t) (h' : t.Frame u) : s.Frame u :=
  ⟨h'.td.trans h.td, h'.gradv.trans h.gradv, fun r => h'.rect (h.rect r)⟩

theorem ite {c : Prop} [Decidable c] (ht : s.Frame t) (hu : s.Frame u) : s.Frame (if c then t else u) := by
  split <;> assumption

theorem setTd {a : Array α} (h : a.size = s.td.size) : s.Frame { s with td := a } := ⟨h, rfl, id⟩

theorem initStore (grad : Bool) (s : Init2 α) (r c : Nat) (v : α) (sz sx : Int) : s.Frame (initStore grad s r c v sz sx) :=
  ⟨rfl, rfl, fun h => h.set _ _ _⟩

theorem foldl {γ : Type} {f : Init2 α → γ → Init2 α} (hf : ∀ (s : Init2 α) x, s.Frame (f s x)) (l : List γ) (s : Init2 α) :
    s.Frame (l.foldl f s) :=
  List.foldlRecOn (motive := (s.Frame ·)) l f ⟨rfl, rfl, id⟩ fun t h x _ => h.trans (hf t x)

theorem leg {γ : Type} {f : Init2 α → γ → Init2 α} (hf : ∀ (s : Init2 α) x, s.Frame (f s x)) {a : Array α}
    (h : a.size = s.td.size) (l : List γ) : s.Frame (l.foldl f { s with td := a }) :=
  (setTd h).trans (foldl hf l _)

end Init2.Frame
end

/-- A step of the source row is a store into `td` followed by two conditional `initStore`s. -/
theorem initXStep_frame {p : Par2 α} {slow : Grid2 α} {grad : Bool} {zsi : Nat} {dzu dzd : α} {east : Bool}
    (s : Init2 α) (j : Nat) : s.Frame (initXStep p slow grad zsi dzu dzd east s j) := by
  unfold initXStep
  refine .ite (.trans ?_ (.initStore ..)) ?_ <;>
    exact .ite (.trans (.setTd (Array.size_setIfInBounds ..)) (.initStore ..)) (.setTd (Array.size_setIfInBounds ..))

theorem initZStep_frame {p : Par2 α} {slow : Grid2 α} {grad : Bool} {xsi : Nat} {dxw dxe : α} {south : Bool}
    (s : Init2 α) (i : Nat) : s.Frame (initZStep p slow grad xsi dxw dxe south s i) := by
  unfold initZStep
  refine .ite (.trans ?_ (.initStore ..)) ?_ <;>
    exact .ite (.trans (.setTd (Array.size_setIfInBounds ..)) (.initStore ..)) (.setTd (Array.size_setIfInBounds ..))

omit [Scalar α] in
/-- A translated row or column loop against the model's fold of `step` over the same indices (`hl'`: a `pyRange_*`
lemma): it is enough that the two bodies agree on a state whose work array has the slot `j`, because the translated
body reads `td[j]` back after storing it where the model keeps the stored value.  `P` is whatever else the bodies'
agreement needs of an index (`1 ≤ j` where the body reads slot `j - 1`). -/
theorem gen_init_loop {n : Nat} {step : Init2 α → Nat → Init2 α} {P : Nat → Prop}
    {body : Array α × Grid2 α × Grid2 (Int × Int) → Int → Array α × Grid2 α × Grid2 (Int × Int)}
    (hf : ∀ (s : Init2 α) j, s.Frame (step s j))
    (hb : ∀ (s : Init2 α) j, P j → j < s.td.size → body s.toT j = (step s j).toT)
    {l' : List Int} {l : List Nat} (hl' : l' = l.map Int.ofNat) (hl : ∀ j ∈ l, P j ∧ j < n) (s : Init2 α)
    (hs : n ≤ s.td.size) : l'.foldl body s.toT = (l.foldl step s).toT := by
  subst hl'
  induction l generalizing s with
  | nil => rfl
  | cons j l ih =>
    obtain ⟨hP, hj⟩ := hl j List.mem_cons_self
    simp only [List.map_cons, List.foldl_cons, Int.ofNat_eq_natCast]
    rw [hb s j hP (by omega)]
    exact ih (fun x hx => hl x (List.mem_cons_of_mem _ hx)) _ (by rw [(hf s j).td]; exact hs)

/-! ## the source-row loops (east: `loop2`, west: `loop3`) -/

theorem gen_loop2 (p : Par2 α) (slow : Grid2 α) (grad : Bool) (zsi xsi : Nat) (dzu dzd : α) (s : Init2 α)
    (hs : p.nx ≤ s.td.size) :
    Gen.F2.fteik2d_loop2 p.dx p.dx2i p.dxi p.dz dzd dzu grad (p.nx : Int) slow s.td s.tt s.sgn p.vzero p.xsa
        (xsi : Int) p.zsa (zsi : Int)
      = ((rangeFromTo (xsi + 2) p.nx).foldl (initXStep p slow grad zsi dzu dzd true) s).toT := by
  unfold Gen.F2.fteik2d_loop2
  refine gen_init_loop (P := (1 ≤ ·)) initXStep_frame (fun t j hj1 hjs => ?_) (pyRange_fromTo ..)
    (fun j hj => ((mem_rangeFromTo ..).mp hj).imp_left (Nat.le_trans (Nat.le_add_left 1 _))) s hs
  -- once the indices are converted both sides are the same two conditional stores; the translated code holds them as
  -- conditionals between tuples, the model as conditionals between records: both are put in componentwise form
  unfold initXStep initStore Init2.toT
  simp only [gen_tAna, gen_tAnad, gen_delta, Int.toNat_natCast, toNat_succ', Int.pred_toNat, if_true,
    get1_set_self hjs, natCast_pred j hj1, Grid2.set_snd,
    ite_pair, apply_ite Init2.tt, apply_ite Init2.sgn, apply_ite Init2.td, ite_self]

theorem gen_loop3 (p : Par2 α) (slow : Grid2 α) (grad : Bool) (zsi xsi : Nat) (dzu dzd : α) (s : Init2 α)
    (hs : xsi ≤ s.td.size) :
    Gen.F2.fteik2d_loop3 p.dx p.dx2i p.dxi p.dz dzd dzu grad slow s.td s.tt s.sgn p.vzero p.xsa
        (xsi : Int) p.zsa (zsi : Int)
      = ((rangeDownFrom xsi).foldl (initXStep p slow grad zsi dzu dzd false) s).toT := by
  unfold Gen.F2.fteik2d_loop3
  refine gen_init_loop (P := fun _ => True) initXStep_frame (fun t j _ hjs => ?_) (pyRange_downFrom ..)
    (fun j hj => ⟨trivial, (mem_rangeDownFrom ..).mp hj⟩) s hs
  unfold initXStep initStore Init2.toT
  simp only [gen_tAna, gen_tAnad, gen_delta, Int.toNat_natCast, toNat_succ', if_false, Bool.false_eq_true,
    get1_set_self hjs, Int.natCast_add_one, Grid2.set_snd,
    ite_pair, apply_ite Init2.tt, apply_ite Init2.sgn, apply_ite Init2.td, ite_self]

/-! ## the source-column loops (south: `loop4`, north: `loop5`) -/

theorem gen_loop4 (p : Par2 α) (slow : Grid2 α) (grad : Bool) (zsi xsi : Nat) (dxw dxe : α) (s : Init2 α)
    (hs : p.nz ≤ s.td.size) :
    Gen.F2.fteik2d_loop4 p.dx p.dx2i dxe p.dxi dxw p.dz p.dz2i p.dzi grad (p.nz : Int) slow s.td s.tt s.sgn p.vzero p.xsa
        (xsi : Int) p.zsa (zsi : Int)
      = ((rangeFromTo (zsi + 2) p.nz).foldl (initZStep p slow grad xsi dxw dxe true) s).toT := by
  unfold Gen.F2.fteik2d_loop4
  refine gen_init_loop (P := (1 ≤ ·)) initZStep_frame (fun t j hj1 hjs => ?_) (pyRange_fromTo ..)
    (fun j hj => ((mem_rangeFromTo ..).mp hj).imp_left (Nat.le_trans (Nat.le_add_left 1 _))) s hs
  unfold initZStep initStore Init2.toT
  simp only [gen_tAna, gen_tAnad, gen_delta, Int.toNat_natCast, toNat_succ', Int.pred_toNat, if_true,
    get1_set_self hjs, natCast_pred j hj1, Grid2.set_snd,
    ite_pair, apply_ite Init2.tt, apply_ite Init2.sgn, apply_ite Init2.td, ite_self]

theorem gen_loop5 (p : Par2 α) (slow : Grid2 α) (grad : Bool) (zsi xsi : Nat) (dxw dxe : α) (s : Init2 α)
    (hs : zsi ≤ s.td.size) :
    Gen.F2.fteik2d_loop5 p.dx p.dx2i dxe p.dxi dxw p.dz p.dz2i p.dzi grad slow s.td s.tt s.sgn p.vzero p.xsa
        (xsi : Int) p.zsa (zsi : Int)
      = ((rangeDownFrom zsi).foldl (initZStep p slow grad xsi dxw dxe false) s).toT := by
  unfold Gen.F2.fteik2d_loop5
  refine gen_init_loop (P := fun _ => True) initZStep_frame (fun t j _ hjs => ?_) (pyRange_downFrom ..)
    (fun j hj => ⟨trivial, (mem_rangeDownFrom ..).mp hj⟩) s hs
  unfold initZStep initStore Init2.toT
  simp only [gen_tAna, gen_tAnad, gen_delta, Int.toNat_natCast, toNat_succ', if_false, Bool.false_eq_true,
    get1_set_self hjs, Int.natCast_add_one, Grid2.set_snd,
    ite_pair, apply_ite Init2.tt, apply_ite Init2.sgn, apply_ite Init2.td, ite_self]

/-! ## the four nodes around the source (`loop1`) -/

theorem gen_loop1 (p : Par2 α) (grad : Bool) (zsi xsi : Nat) (s : Init2 α) :
    Gen.F2.fteik2d_loop1 p.dx p.dz grad s.tt s.gradv p.vzero p.xsa (xsi : Int) p.zsa (zsi : Int)
      = ([(zsi, xsi), (zsi + 1, xsi), (zsi, xsi + 1), (zsi + 1, xsi + 1)].foldl (fun (s : Init2 α) (ij : Nat × Nat) =>
          let (t, tzc, txc) := tAnad ij.1 ij.2 p.dz p.dx p.zsa p.xsa p.vzero
          { s with tt := s.tt.set ij.1 ij.2 t,
                   gradv := if grad then s.gradv.set ij.1 ij.2 (tzc, txc) else s.gradv }) s).toG := by
  unfold Gen.F2.fteik2d_loop1
  refine foldl_hom_map Init2.toG (fun ij : Nat × Nat => ((ij.1 : Int), (ij.2 : Int)))
    (by simp only [List.map_cons, List.map_nil, Int.natCast_add_one]) (fun t ij => ?_) s
  unfold Init2.toG
  simp only [gen_tAnad, Int.toNat_natCast, Grid2.set_snd]

/-! ## the gradient assembly (`loop7`) -/

theorem gen_gradNode (dz dx : α) (tt : Grid2 α) (sgn : Grid2 (Int × Int)) (g : Grid2 (α × α)) (i j : Nat) :
    (let sgntz := (sgn.get (0, 0) i j).1
     let ttgrad := if (sgntz != (0 : Int)) then
        g.set i j ((((ofInt sgntz) * ((tt.get zero i j) - (tt.get zero ((i : Int) - sgntz).toNat j))) / dz), (g.get (zero, zero) i j).2)
        else g
     let sgntx := (sgn.get (0, 0) i j).2
     let ttgrad := if (sgntx != (0 : Int)) then
        ttgrad.set i j ((ttgrad.get (zero, zero) i j).1, (((ofInt sgntx) * ((tt.get zero i j) - (tt.get zero i ((j : Int) - sgntx).toNat))) / dx))
        else ttgrad
     let gn := (Gen.Common.norm2d (ttgrad.get (zero, zero) i j).1 (ttgrad.get (zero, zero) i j).2)
     let ttgrad := if (gt gn zero) then
        ttgrad.set i j ((ttgrad.get (zero, zero) i j).1 / gn, (ttgrad.get (zero, zero) i j).2 / gn)
        else ttgrad
     ttgrad)
    = g.set i j (gradNode2 dz dx tt (sgn.get (0, 0) i j) (g.get (zero, zero) i j) i j) := by
  by_cases h : g.InB i j
  · -- every intermediate grid is `g` with one value stored at `(i, j)`; what is left is an identity between the values,
    -- in which a conditional update of one component is the pair of the conditional components
    simp only [Grid2.ite_set _ (zero, zero), ← Grid2.set_ite, Grid2.set_set, Grid2.get_set_self h]
    refine congrArg (g.set i j) ?_
    unfold gradNode2 nb
    simp only [ite_pair_eta, ite_self, gen_norm2d, Int.ofNat_eq_natCast]
  · simp only [Grid2.set_of_not_inB g i j _ h, ite_self]

theorem gen_loop7 (p : Par2 α) (tt : Grid2 α) (sgn : Grid2 (Int × Int)) (gradv : Grid2 (α × α)) :
    Gen.F2.fteik2d_loop7 p.dx p.dz (p.nx : Int) (p.nz : Int) tt gradv sgn = assembleGrad2 p tt sgn gradv := by
  unfold Gen.F2.fteik2d_loop7 assembleGrad2
  refine foldl_hom_map id Int.ofNat (pyRange_zero _) (fun g i => ?_) gradv
  refine foldl_hom_map id Int.ofNat (pyRange_zero _) (fun g j => ?_) g
  exact gen_gradNode p.dz p.dx tt sgn g i j

theorem gen_if2 (p : Par2 α) (grad : Bool) (tt : Grid2 α) (sgn : Grid2 (Int × Int)) (gradv : Grid2 (α × α)) :
    Gen.F2.fteik2d_if2 p.dx p.dz grad (p.nx : Int) (p.nz : Int) tt gradv sgn
      = if grad then assembleGrad2 p tt sgn gradv else gradv := by
  unfold Gen.F2.fteik2d_if2
  rw [gen_loop7]

/-! ## the initialisation block `if iflag == 2: ... else: tt[int(zsa), int(xsa)] = 0` (`if1`) -/

theorem gen_if1_offgrid (p : Par2 α) (slow : Grid2 α) (grad : Bool) (zsi xsi : Nat)
    (tt : Grid2 α) (ttgrad : Grid2 (α × α)) (ttsgn : Grid2 (Int × Int))
    (hxs : xsi < p.nx) (hzs : zsi < p.nz)
    (h1 : p.dzi = one / p.dz) (h2 : p.dxi = one / p.dx) (h3 : p.dz2i = p.dzi / p.dz) (h4 : p.dx2i = p.dxi / p.dx) :
    Gen.F2.fteik2d_if1 p.big p.dx p.dz grad 2 (p.nx : Int) (p.nz : Int) slow tt ttgrad ttsgn p.vzero p.xsa (xsi : Int) p.zsa (zsi : Int)
      = ((initOffGrid p slow grad zsi xsi ⟨tt, ttsgn, ttgrad, Array.replicate (max p.nz p.nx) p.big⟩).tt,
         (initOffGrid p slow grad zsi xsi ⟨tt, ttsgn, ttgrad, Array.replicate (max p.nz p.nx) p.big⟩).gradv,
         (initOffGrid p slow grad zsi xsi ⟨tt, ttsgn, ttgrad, Array.replicate (max p.nz p.nx) p.big⟩).sgn) := by
  -- name the states of the model: `s1` after the four nodes, `sk` after the k-th loop, `sk'` = `sk` with the first
  -- entry of `td` for the next loop
  generalize hR : initOffGrid p slow grad zsi xsi ⟨tt, ttsgn, ttgrad, Array.replicate (max p.nz p.nx) p.big⟩ = R
  unfold initOffGrid at hR
  extract_lets dzu dzd dxw dxe s1 s1' s2 s2' s3 s3' s4 s4' at hR
  subst hR
  have f2 : s1.Frame s2 := .leg initXStep_frame (Array.size_setIfInBounds ..) _
  have f3 : s1.Frame s3 := f2.trans (.leg initXStep_frame (Array.size_setIfInBounds ..) _)
  have f4 : s1.Frame s4 := f3.trans (.leg initZStep_frame
    ((Array.size_setIfInBounds ..).trans (Array.size_replicate ..)) _)
  have f5 : s1.Frame (List.foldl (initZStep p slow grad xsi dxw dxe false) s4' (rangeDownFrom zsi)) :=
    f4.trans (.leg initZStep_frame (Array.size_setIfInBounds ..) _)
  have z : s1.td.size = max p.nz p.nx := Array.size_replicate ..
  unfold Gen.F2.fteik2d_if1
  simp only [show ((2 : Int) == 2) = true from rfl, if_true, toNat_max_cast, toNat_succ', Int.toNat_natCast, ← h1, ← h2, ← h3, ← h4]
  -- a loop theorem is used at the record made of the arrays the translated code holds at that point and of the
  -- model's `gradv`, which the loop does not see; that record is the model's state by computation
  rw [gen_loop1 p grad zsi xsi ⟨tt, ttsgn, ttgrad, Array.replicate (max p.nz p.nx) p.big⟩,
    gen_loop2 p slow grad zsi xsi _ _ ⟨_, _, s1.gradv, _⟩ ?a, gen_loop3 p slow grad zsi xsi _ _ ⟨_, _, s2.gradv, _⟩ ?b,
    gen_loop4 p slow grad zsi xsi _ _ ⟨_, _, s3.gradv, _⟩ ?c, gen_loop5 p slow grad zsi xsi _ _ ⟨_, _, s4.gradv, _⟩ ?d]
  case a => exact (by simp only [s1', Array.size_setIfInBounds, z]; exact Nat.le_max_right .. : p.nx ≤ s1'.td.size)
  case b => exact (by simp only [s2', Array.size_setIfInBounds, f2.td, z]; exact Nat.le_trans (Nat.le_of_lt hxs) (Nat.le_max_right ..) : xsi ≤ s2'.td.size)
  case c => exact (by simp only [s3', Array.size_setIfInBounds, Array.size_replicate, f3.td, z]; exact Nat.le_max_left .. : p.nz ≤ s3'.td.size)
  case d => exact (by simp only [s4', Array.size_setIfInBounds, f4.td, z]; exact Nat.le_trans (Nat.le_of_lt hzs) (Nat.le_max_left ..) : zsi ≤ s4'.td.size)
  exact Prod.ext rfl (Prod.ext f5.gradv.symm rfl)

theorem initOffGrid_rect (p : Par2 α) (slow : Grid2 α) (grad : Bool) (zsi xsi : Nat) (s0 : Init2 α) {nz nx : Nat}
    (h : s0.tt.IsRect nz nx) : (initOffGrid p slow grad zsi xsi s0).tt.IsRect nz nx := by
  unfold initOffGrid
  extract_lets dzu dzd dxw dxe s1 s1' s2 s2' s3 s3' s4 s4'
  refine Init2.Frame.rect (s := s1) (.trans (.trans (.trans
    (.leg initXStep_frame (Array.size_setIfInBounds ..) _)
    (.leg initXStep_frame (Array.size_setIfInBounds ..) _))
    (.leg initZStep_frame ((Array.size_setIfInBounds ..).trans (Array.size_replicate ..)) _))
    (.leg initZStep_frame (Array.size_setIfInBounds ..) _))
    (List.foldlRecOn (motive := fun s : Init2 α => s.tt.IsRect nz nx) _ _ h fun _ hs _ _ => hs.set ..)

theorem initState2_par (su : Setup2 α) (slow : Grid2 α) (grad : Bool) : (initState2 su slow grad).par = su.par := by
  unfold initState2
  exact (apply_ite Prep2.par ..).trans (ite_self _)

/-- The source holds the classification flag and the source cell as Ints, the model as Nats: `hI`, `hzi`, `hxi` (and the
four equations on `p`) are `rfl` at the one call, in `gen_fteik2d_eq`, where `p` is the record `setup2` builds. -/
theorem gen_tail (hf : FarLaw α) (p : Par2 α) (slow : Grid2 α) (grad : Bool) (iflagI : Int) (iflagN : Nat)
    (hI : iflagI = (iflagN : Int)) (zsi xsi : Nat) (hzi : p.zsi = (zsi : Int)) (hxi : p.xsi = (xsi : Int))
    (hxs : xsi < p.nx) (hzs : zsi < p.nz)
    (h1 : p.dzi = one / p.dz) (h2 : p.dxi = one / p.dx) (h3 : p.dz2i = p.dzi / p.dz) (h4 : p.dx2i = p.dxi / p.dx)
    (nsweep : Nat) :
    let tt0 := Grid2.full p.nz p.nx p.big
    let g0 : Grid2 (α × α) := if grad then Grid2.full p.nz p.nx (zero, zero) else #[]
    let sg0 : Grid2 (Int × Int) := if grad then Grid2.full p.nz p.nx (0, 0) else #[]
    let r := Gen.F2.fteik2d_if1 p.big p.dx p.dz grad iflagI (p.nx : Int) (p.nz : Int) slow tt0 g0 sg0 p.vzero p.xsa (xsi : Int) p.zsa (zsi : Int)
    let res6 := Gen.F2.fteik2d_loop6 p.big p.dx p.dz grad (nsweep : Int) (p.nx : Int) (p.nz : Int) slow r.1 r.2.2 p.vzero p.xsa (xsi : Int) p.zsa (zsi : Int)
    (res6.1, Gen.F2.fteik2d_if2 p.dx p.dz grad (p.nx : Int) (p.nz : Int) res6.1 r.2.1 res6.2)
      = (let pr := initState2 ⟨p, iflagN⟩ slow grad
         let st := iter (sweep2d pr.par slow grad) nsweep pr.st
         (st.tt, if grad then assembleGrad2 pr.par st.tt st.sgn pr.gradv else pr.gradv)) := by
  intro tt0 g0 sg0 r res6
  generalize hpr : initState2 ⟨p, iflagN⟩ slow grad = pr
  have hpar : pr.par = p := hpr ▸ initState2_par ..
  obtain ⟨er, hr⟩ : r = (pr.st.tt, pr.gradv, pr.st.sgn) ∧ pr.st.tt.IsRect p.nz p.nx := by
    subst hpr
    unfold initState2
    by_cases hN : iflagN = 2
    · subst hN
      obtain rfl : iflagI = 2 := hI
      simp only [show ((2 : Nat) == 2) = true from rfl, if_true, hzi, hxi, Int.toNat_natCast]
      exact ⟨gen_if1_offgrid p slow grad zsi xsi tt0 g0 sg0 hxs hzs h1 h2 h3 h4,
        initOffGrid_rect p slow grad zsi xsi _ (Grid2.full_rect ..)⟩
    · -- the `else` branch of the block: `tt[int(zsa), int(xsa)] = 0`
      simp only [beq_eq_false_iff_ne.mpr hN, Bool.false_eq_true, if_false]
      exact ⟨if_neg (by rw [hI, beq_iff_eq]; omega), (Grid2.full_rect ..).set ..⟩
  have e6 : res6 = (iter (sweep2d p slow grad) nsweep pr.st).toP := by
    show Gen.F2.fteik2d_loop6 _ _ _ _ _ _ _ _ r.1 r.2.2 _ _ _ _ _ = _
    rw [er, ← hzi, ← hxi]
    exact gen_fteik2d_sweeps hf p slow grad nsweep pr.st hr h1 h2 h3 h4
  rw [e6, er, gen_if2]
  simp only [hpar]
  rfl

/-- The left side is the source classification as `Gen.F2.fteik2d` spells it, so that `simp only` rewrites it there. -/
theorem gen_classify (zsa xsa : α) (zsi xsi : Int) :
    (if (lt (pymin2 (abs (zsa - ofInt zsi)) (one - abs (zsa - ofInt zsi))) eps15
          && lt (pymin2 (abs (xsa - ofInt xsi)) (one - abs (xsa - ofInt xsi))) eps15) then
        ((1 : Int), rint xsa, rint zsa)
      else if (gt (pymin2 (abs (zsa - ofInt zsi)) (one - abs (zsa - ofInt zsi))) eps15
          || gt (pymin2 (abs (xsa - ofInt xsi)) (one - abs (xsa - ofInt xsi))) eps15) then
        ((2 : Int), (if lt (pymin2 (abs (xsa - ofInt xsi)) (one - abs (xsa - ofInt xsi))) eps15 then rint xsa else xsa),
          (if lt (pymin2 (abs (zsa - ofInt zsi)) (one - abs (zsa - ofInt zsi))) eps15 then rint zsa else zsa))
      else ((3 : Int), rint xsa, rint zsa))
    = (((classifySource zsa xsa zsi xsi).iflag : Int), (classifySource zsa xsa zsi xsi).xsa, (classifySource zsa xsa zsi xsi).zsa) := by
  unfold classifySource
  dsimp only
  generalize (lt _ (eps15 : α) && lt _ (eps15 : α)) = a
  generalize (gt _ (eps15 : α) || gt _ (eps15 : α)) = b
  cases a <;> cases b <;> rfl

/-- the cell index `min(int(sa), n - 1)` of the source is a natural number below `n`, given `0 ≤ int(sa)` -/
theorem exists_cell_index {t : Int} {c : Nat} (ht : 0 ≤ t) (hc : 1 ≤ c) : ∃ n : Nat, min t ((c : Int) - 1) = n ∧ n < c :=
  ⟨_, (Int.toNat_of_nonneg (by omega)).symm, by omega⟩

/-- the integer parts of the clamped grid coordinates of the source are not negative (proved for the reals,
`Proofs/GenWholeReal.lean`) -/
def TruncNonneg2 (slow : Grid2 α) (dz dx zs xs : α) : Prop :=
  0 ≤ trunc (if ge (zs / dz) (ofInt (slow.size : Int) : α) then (ofInt (slow.size : Int) : α) else zs / dz)
  ∧ 0 ≤ trunc (if ge (xs / dx) (ofInt ((slow.getD 0 #[]).size : Int) : α) then (ofInt ((slow.getD 0 #[]).size : Int) : α) else xs / dx)

theorem gen_fteik2d_eq (hf : FarLaw α) (big : α) (slow : Grid2 α) (dz dx zs xs : α) (nsweep : Nat) (grad : Bool)
    (hz : 1 ≤ slow.size) (hx : 1 ≤ (slow.getD 0 #[]).size)
    (ht : inModel2 slow dz dx zs xs = true → TruncNonneg2 slow dz dx zs xs) :
    Gen.F2.fteik2d big slow dz dx zs xs (nsweep : Int) grad
      = (fteik2d big slow slow.size (slow.getD 0 #[]).size dz dx zs xs nsweep grad).map (fun o => (o.tt, o.grad, o.vzero)) := by
  rcases Bool.eq_false_or_eq_true (inModel2 slow dz dx zs xs) with hc | hc
  · -- what the hypotheses give is settled before the solvers are opened: the clamped coordinates get names, the
    -- cell indices of the source are naturals
    obtain ⟨htz, htx⟩ := ht hc
    generalize hzsa : ite (ge (zs / dz) _ = true) _ _ = zsa at htz
    generalize hxsa : ite (ge (xs / dx) _ = true) _ _ = xsa at htx
    obtain ⟨zsi, hzsi, hzlt⟩ := exists_cell_index htz hz
    obtain ⟨xsi, hxsi, hxlt⟩ := exists_cell_index htx hx
    simp only [inModel2, Int.ofNat_eq_natCast] at hc
    unfold Gen.F2.fteik2d fteik2d prepare2 setup2
    simp only [Int.ofNat_eq_natCast, hc, hzsa, hxsa, hzsi, hxsi, gen_classify, Bool.not_true, Bool.false_eq_true, if_false,
      Except.map, ← Int.natCast_add_one, Int.toNat_natCast, apply_ite Prod.fst, apply_ite Prod.snd, initState2_par]
    generalize classifySource zsa xsa zsi xsi = c
    have T := gen_tail hf ⟨dz, dx, one / dz, one / dx, one / dz / dz, one / dx / dx, zsi, xsi, c.zsa, c.xsa,
      slow.get zero zsi xsi, big, slow.size + 1, (slow.getD 0 #[]).size + 1⟩ slow grad _ c.iflag rfl zsi xsi rfl rfl
      (Nat.lt_succ_of_lt hxlt) (Nat.lt_succ_of_lt hzlt) rfl rfl rfl rfl nsweep
    simp only [initState2_par] at T
    exact congrArg (fun x => Except.ok (x.1, x.2, slow.get zero zsi xsi)) T
  · simp only [inModel2, Int.ofNat_eq_natCast] at hc
    unfold Gen.F2.fteik2d fteik2d prepare2 setup2
    simp only [Int.ofNat_eq_natCast, hc, Bool.not_false, if_true, Except.map]
end Fteik
