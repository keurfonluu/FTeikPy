import Mathlib.Data.List.Forall2
import FteikVerif.Proofs.Sweep
/-!
# Sweeping reaches a fixed point after finitely many sweeps (C07, second clause)

If `<` on the scalar type is well-founded (true of any strict order on a finite type, hence of
IEEE doubles - `Proofs/FloatOrder.lean`), an operator on grids that preserves the shape and never
raises a node cannot change the grid infinitely often: some iterate is a fixed point.

`Below le x y` is "`le x y` and `x ≠ y`".  If it is well-founded on `β` it is well-founded on
arrays of `β` related entry by entry (`arrayBelow_wf`); a grid is an array of arrays (of arrays), so
the lemma is applied two (three) times, and a 3-D grid is handled as an array of 2-D grids.
-/
namespace Fteik
open Scalar

def Below {β : Type} (le : β → β → Prop) (x y : β) : Prop := le x y ∧ x ≠ y

theorem stabilises_of_wf {β : Type} (le : β → β → Prop) (hwf : WellFounded (Below le)) (f : β → β)
    (hf : ∀ x, le (f x) x) (x0 : β) : ∃ k, f (iter f k x0) = iter f k x0 := by
  induction x0 using hwf.induction with
  | _ x ih =>
    by_cases e : f x = x
    · exact ⟨0, e⟩
    · obtain ⟨k, hk⟩ := ih (f x) ⟨hf x, e⟩
      exact ⟨k + 1, hk⟩

section lists
variable {β : Type} (le : β → β → Prop)

/-- below `a :: t` the head has gone down (outer induction), or it is the same and the tail has
gone down (inner induction) -/
theorem acc_cons {a : β} (ha : Acc (Below le) a) {t : List β} (ht : Acc (Below (List.Forall₂ le)) t) :
    Acc (Below (List.Forall₂ le)) (a :: t) := by
  induction ha generalizing t with
  | intro a _ iha =>
    induction ht with
    | intro t ht iht =>
      refine Acc.intro _ fun y hy => ?_
      obtain ⟨hle, hne⟩ := hy
      cases hle with
      | @cons a' _ t' _ hab htl =>
        by_cases ea : a' = a
        · subst ea
          exact iht t' ⟨htl, fun e => hne (by rw [e])⟩
        · by_cases et : t' = t
          · exact iha a' ⟨hab, ea⟩ (et ▸ Acc.intro t ht)
          · exact iha a' ⟨hab, ea⟩ (ht t' ⟨htl, et⟩)

theorem listBelow_wf (hwf : WellFounded (Below le)) : WellFounded (Below (List.Forall₂ le)) := by
  refine ⟨fun l => ?_⟩
  induction l with
  | nil => exact Acc.intro _ fun y hy => absurd (List.forall₂_nil_right_iff.mp hy.1) hy.2
  | cons a t ih => exact acc_cons le (hwf.apply a) ih

def ArrayLE (a' a : Array β) : Prop := List.Forall₂ le a'.toList a.toList

theorem arrayBelow_wf (hwf : WellFounded (Below le)) : WellFounded (Below (ArrayLE le)) :=
  Subrelation.wf (fun {a' a} h => (⟨h.1, fun e => h.2 (Array.ext' e)⟩ : Below _ a'.toList a.toList))
    (InvImage.wf Array.toList (listBelow_wf le hwf))

theorem arrayLE_of_getD (d : β) {a' a : Array β} (hs : a'.size = a.size)
    (h : ∀ i, le (a'.getD i d) (a.getD i d)) : ArrayLE le a' a := by
  refine List.forall₂_iff_get.mpr ⟨by simpa using hs, fun i h1 h2 => ?_⟩
  simp only [Array.length_toList] at h1 h2
  simpa [Array.getD_eq_getD_getElem?, h1, h2] using h i

end lists

variable {α : Type} [Scalar α]

theorem nonIncBelow_wf (hwf : WellFounded (fun a b : α => lt a b = true)) :
    WellFounded (Below (Fteik.NonInc (α := α))) :=
  Subrelation.wf (fun h => h.1.resolve_left h.2) hwf

theorem Grid2.arrayLE (g' g : Grid2 α) (hs : Grid2.SameShape g' g) (hn : Grid2.NonInc g' g) :
    ArrayLE (ArrayLE Fteik.NonInc) g' g := by
  unfold Grid2.NonInc Grid2.get at hn
  exact arrayLE_of_getD _ #[] hs.1 fun i => arrayLE_of_getD _ zero (hs.2 i) (hn i)

theorem Grid3.arrayLE (g' g : Grid3 α) (hs : Grid3.SameShape g' g) (hn : Grid3.NonInc g' g) :
    ArrayLE (ArrayLE (ArrayLE Fteik.NonInc)) g' g :=
  arrayLE_of_getD _ #[] hs.1 fun i => Grid2.arrayLE _ _ ⟨hs.2.1 i, hs.2.2 i⟩ (hn i)

theorem Grid2.stabilises (hwf : WellFounded (fun a b : α => lt a b = true)) (f : Grid2 α → Grid2 α)
    (hshape : ∀ g, Grid2.SameShape (f g) g) (hni : ∀ g, Grid2.NonInc (f g) g) (g0 : Grid2 α) :
    ∃ k, f (iter f k g0) = iter f k g0 :=
  stabilises_of_wf _ (arrayBelow_wf _ (arrayBelow_wf _ (nonIncBelow_wf hwf))) f
    (fun g => Grid2.arrayLE _ _ (hshape g) (hni g)) g0

theorem Grid3.stabilises (hwf : WellFounded (fun a b : α => lt a b = true)) (f : Grid3 α → Grid3 α)
    (hshape : ∀ g, Grid3.SameShape (f g) g) (hni : ∀ g, Grid3.NonInc (f g) g) (g0 : Grid3 α) :
    ∃ k, f (iter f k g0) = iter f k g0 :=
  stabilises_of_wf _ (arrayBelow_wf _ (arrayBelow_wf _ (arrayBelow_wf _ (nonIncBelow_wf hwf)))) f
    (fun g => Grid3.arrayLE _ _ (hshape g) (hni g)) g0

end Fteik
