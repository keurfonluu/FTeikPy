import FteikVerif.Generated.KVInterp
import FteikVerif.Proofs.GenLemmas
/-!
As `GenEquivSolver2.lean`, for `_vinterp2d.py`, `_vinterp3d.py` (`Generated/KVInterp.lean`).
-/
namespace Fteik

variable {α : Type} [Scalar α]

theorem gen_dist2d (a b c d : α) : Gen.Common.dist2d a b c d = dist2d a b c d := rfl
theorem gen_dist3d (a b c d e f : α) : Gen.Common.dist3d a b c d e f = dist3d a b c d e f := rfl

/- as in `GenEquivInterp`; the tests "query in the source cell" and "all four/eight corner values nonzero" are spelt
alike in source and model and need no case distinction. -/
theorem gen_vinterp2d (x y : Array α) (v : Grid2 α) (xq yq xs ys vz fval : α)
    (hx : 0 < x.size) (hy : 0 < y.size) (hv : 0 < v.size) (hv0 : 0 < (v.getD 0 #[]).size) :
    Gen.V2.vinterp2d x y v xq yq xs ys vz fval = vinterp2d x y v xq yq xs ys vz fval := by
  cases hin : inside x xq && inside y yq
  · unfold Gen.V2.vinterp2d vinterp2d
    exact (if_pos (congrArg not hin)).trans (if_pos (congrArg not hin)).symm
  obtain ⟨h1, h2⟩ := Bool.and_eq_true_iff.mp hin
  obtain ⟨a1, a2, a3⟩ := axis_int x v.size xq hx hv h1
  obtain ⟨b1, b2, b3⟩ := axis_int y (v.getD 0 #[]).size yq hy hv0 h2
  unfold inside at h1 h2
  cases e1 : (axisCell x (v.size - 1) xq).edge <;> cases e2 : (axisCell y ((v.getD 0 #[]).size - 1) yq).edge <;>
    simp (config := {etaStruct := .none}) only [Gen.V2.vinterp2d, vinterp2d, inside, h1, h2, e1, e2, a1, a2, a3,
      b1, b2, b3, axisCell_x1, axisCell_x2, gen_dist2d, bne, Bool.not_true, Bool.not_false, Bool.and_true,
      Bool.and_false, Bool.and_self, Bool.or_true, Bool.or_false, Bool.or_self, Bool.false_eq_true, ↓reduceIte]

theorem gen_vinterp3d (x y z : Array α) (v : Grid3 α) (xq yq zq xs ys zs vz fval : α)
    (hx : 0 < x.size) (hy : 0 < y.size) (hz : 0 < z.size) (hv : 0 < v.size)
    (hv0 : 0 < (v.getD 0 #[]).size) (hv00 : 0 < ((v.getD 0 #[]).getD 0 #[]).size) :
    Gen.V3.vinterp3d x y z v xq yq zq xs ys zs vz fval = vinterp3d x y z v xq yq zq xs ys zs vz fval := by
  cases hin : inside x xq && inside y yq && inside z zq
  · unfold Gen.V3.vinterp3d vinterp3d
    exact (if_pos (congrArg not hin)).trans (if_pos (congrArg not hin)).symm
  obtain ⟨h12, h3⟩ := Bool.and_eq_true_iff.mp hin
  obtain ⟨h1, h2⟩ := Bool.and_eq_true_iff.mp h12
  obtain ⟨a1, a2, a3⟩ := axis_int x v.size xq hx hv h1
  obtain ⟨b1, b2, b3⟩ := axis_int y (v.getD 0 #[]).size yq hy hv0 h2
  obtain ⟨c1, c2, c3⟩ := axis_int z ((v.getD 0 #[]).getD 0 #[]).size zq hz hv00 h3
  unfold inside at h1 h2 h3
  cases e1 : (axisCell x (v.size - 1) xq).edge <;> cases e2 : (axisCell y ((v.getD 0 #[]).size - 1) yq).edge <;>
    cases e3 : (axisCell z (((v.getD 0 #[]).getD 0 #[]).size - 1) zq).edge <;>
    simp (config := {etaStruct := .none}) only [Gen.V3.vinterp3d, vinterp3d, inside, h1, h2, h3, e1, e2, e3,
      a1, a2, a3, b1, b2, b3, c1, c2, c3, axisCell_x1, axisCell_x2, gen_dist3d, bne, Bool.not_true, Bool.not_false,
      Bool.and_true, Bool.and_false, Bool.and_self, Bool.or_true, Bool.or_false, Bool.or_self, Bool.false_eq_true,
      ↓reduceIte]

end Fteik
