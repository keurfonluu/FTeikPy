import FteikVerif.Generated.KSweep2
import FteikVerif.Generated.KSweep3
import FteikVerif.Proofs.Sweep
/-!
# Structural facts proved directly about the translated `sweep` kernels

These theorems do not go through the hand-written model: they are statements about
`Gen.F2.sweep` / `Gen.F3.sweep`, i.e. about the definitions regenerated from `/repo`'s source on
every run, and they hold for **every** argument tuple (no well-formedness hypothesis).  They are
insensitive to the operator formulas (a changed coefficient does not touch them) and break
exactly when the *shape* of the update changes:

* the new traveltime grid is the old one with node `(i, j[, k])` replaced by
  `min(old value, …)` (C07: an update never raises a node; C04: fixed points);
* the traveltime output does not depend on the `grad` flag, nor on the sign array (C11).
-/
namespace Fteik
open Scalar

variable {α : Type} [Scalar α]

theorem gen_sweep2_min_form (big : α) (tt : Grid2 α) (sgn : Grid2 (Int × Int)) (slow : Grid2 α)
    (dargs : α × α × α × α × α × α) (zsi xsi zsa xsa vz : α) (i j sgnvz sgnvx sgntz sgntx nz nx : Int)
    (grad : Bool) :
    ∃ a b : α, (Gen.F2.sweep big tt sgn slow dargs zsi xsi zsa xsa vz i j sgnvz sgnvx sgntz sgntx nz nx grad).1
      = tt.set i.toNat j.toNat (pymin3 (tt.get zero i.toNat j.toNat) a b) :=
  ⟨_, _, rfl⟩

theorem gen_sweep2_grad_indep (big : α) (tt : Grid2 α) (sgn sgn' : Grid2 (Int × Int)) (slow : Grid2 α)
    (dargs : α × α × α × α × α × α) (zsi xsi zsa xsa vz : α) (i j sgnvz sgnvx sgntz sgntx nz nx : Int)
    (g g' : Bool) :
    (Gen.F2.sweep big tt sgn slow dargs zsi xsi zsa xsa vz i j sgnvz sgnvx sgntz sgntx nz nx g).1
      = (Gen.F2.sweep big tt sgn' slow dargs zsi xsi zsa xsa vz i j sgnvz sgnvx sgntz sgntx nz nx g').1 :=
  rfl

theorem gen_sweep2_nograd_sgn (big : α) (tt : Grid2 α) (sgn : Grid2 (Int × Int)) (slow : Grid2 α)
    (dargs : α × α × α × α × α × α) (zsi xsi zsa xsa vz : α) (i j sgnvz sgnvx sgntz sgntx nz nx : Int) :
    (Gen.F2.sweep big tt sgn slow dargs zsi xsi zsa xsa vz i j sgnvz sgnvx sgntz sgntx nz nx false).2 = sgn :=
  rfl

theorem gen_sweep2_nonInc (h : LtTrans α) (big : α) (tt : Grid2 α) (sgn : Grid2 (Int × Int)) (slow : Grid2 α)
    (dargs : α × α × α × α × α × α) (zsi xsi zsa xsa vz : α) (i j sgnvz sgnvx sgntz sgntx nz nx : Int)
    (grad : Bool) :
    Grid2.NonInc (Gen.F2.sweep big tt sgn slow dargs zsi xsi zsa xsa vz i j sgnvz sgnvx sgntz sgntx nz nx grad).1 tt := by
  obtain ⟨a, b, hab⟩ := gen_sweep2_min_form big tt sgn slow dargs zsi xsi zsa xsa vz i j sgnvz sgnvx sgntz sgntx nz nx grad
  rw [hab]
  exact Grid2.set_nonInc (pymin3_nonInc_left h)

theorem gen_sweep3_min_form (big : α) (tt : Grid3 α) (sgn : Grid3 (Int × Int × Int)) (slow : Grid3 α)
    (dargs : α × α × α × α × α × α × α × α × α × α)
    (i j k sgnvz sgnvx sgnvy sgntz sgntx sgnty nz nx ny : Int) (grad : Bool) :
    ∃ a b c : α, (Gen.F3.sweep big tt sgn slow dargs i j k sgnvz sgnvx sgnvy sgntz sgntx sgnty nz nx ny grad).1
      = tt.set i.toNat j.toNat k.toNat (pymin4 (tt.get zero i.toNat j.toNat k.toNat) a b c) :=
  ⟨_, _, _, rfl⟩

theorem gen_sweep3_grad_indep (big : α) (tt : Grid3 α) (sgn sgn' : Grid3 (Int × Int × Int)) (slow : Grid3 α)
    (dargs : α × α × α × α × α × α × α × α × α × α)
    (i j k sgnvz sgnvx sgnvy sgntz sgntx sgnty nz nx ny : Int) (g g' : Bool) :
    (Gen.F3.sweep big tt sgn slow dargs i j k sgnvz sgnvx sgnvy sgntz sgntx sgnty nz nx ny g).1
      = (Gen.F3.sweep big tt sgn' slow dargs i j k sgnvz sgnvx sgnvy sgntz sgntx sgnty nz nx ny g').1 :=
  rfl

theorem gen_sweep3_nograd_sgn (big : α) (tt : Grid3 α) (sgn : Grid3 (Int × Int × Int)) (slow : Grid3 α)
    (dargs : α × α × α × α × α × α × α × α × α × α)
    (i j k sgnvz sgnvx sgnvy sgntz sgntx sgnty nz nx ny : Int) :
    (Gen.F3.sweep big tt sgn slow dargs i j k sgnvz sgnvx sgnvy sgntz sgntx sgnty nz nx ny false).2 = sgn :=
  rfl

theorem gen_sweep3_nonInc (h : LtTrans α) (big : α) (tt : Grid3 α) (sgn : Grid3 (Int × Int × Int)) (slow : Grid3 α)
    (dargs : α × α × α × α × α × α × α × α × α × α)
    (i j k sgnvz sgnvx sgnvy sgntz sgntx sgnty nz nx ny : Int) (grad : Bool) :
    Grid3.NonInc (Gen.F3.sweep big tt sgn slow dargs i j k sgnvz sgnvx sgnvy sgntz sgntx sgnty nz nx ny grad).1 tt := by
  obtain ⟨a, b, c, hab⟩ := gen_sweep3_min_form big tt sgn slow dargs i j k sgnvz sgnvx sgnvy sgntz sgntx sgnty nz nx ny grad
  rw [hab]
  exact Grid3.set_nonInc (pymin4_nonInc_left h)

end Fteik
