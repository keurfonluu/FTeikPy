/-!
# The ways an index of the kernels stays inside its axis

`Generated/Sites.lean` (C12) holds one obligation `0 ≤ index < extent` per subscript of the kernels; almost all of them
are instances of the few facts below.  `harness/sites.py` reads this file, matches the conclusion of each lemma
against the index and its hypotheses against the facts in scope at the subscript, and writes the lemma's name as the
proof; what matches nothing is left to `lia`.  The obligations bind their hypotheses anonymously, so every hypothesis
here is an auto-param closed by `assumption`, written the way the generator prints the fact and placed after the
hypotheses that fix its variables.  `with_reducible`: a plain `assumption` unfolds `<` on `Int` into `≤` while it
tries the twenty-odd facts in scope, which costs more than the rest of the obligation.
-/
namespace Fteik.Idx

variable {i i1 n s ia : Int}

/-- `for i in range(n)`, or any `0 ≤ i`, `i < n` in scope -/
theorem range (h₁ : 0 ≤ i := by with_reducible assumption) (h₂ : i < n := by with_reducible assumption) : 0 ≤ i ∧ i < n := ⟨h₁, h₂⟩

/-- `for i in range(1, n)` -/
theorem up (h₁ : 1 ≤ i := by with_reducible assumption) (h₂ : i < n := by with_reducible assumption) : 0 ≤ i ∧ i < n := by omega

/-- `for i in range(n - 2, -1, -1)` -/
theorem down (h₁ : i ≤ n - 2 := by with_reducible assumption) (h₂ : -1 < i := by with_reducible assumption) : 0 ≤ i ∧ i < n := by omega

/-! ### `sweep`: upwind neighbour `i - sgnt`, velocity cell `i1 = i - sgnv`, clamped adjoining cells

An upward loop calls `sweep` with `sgnt = sgnv = 1`, a downward one with `sgnt = -1`, `sgnv = 0`. -/

theorem up_upwind (hs : s = 1 := by with_reducible assumption) (h₁ : 1 ≤ i := by with_reducible assumption) (h₂ : i < n := by with_reducible assumption) :
    0 ≤ i - s ∧ i - s < n := by omega

theorem down_upwind (hs : s = -1 := by with_reducible assumption) (h₁ : i ≤ n - 2 := by with_reducible assumption)
    (h₂ : -1 < i := by with_reducible assumption) : 0 ≤ i - s ∧ i - s < n := by omega

theorem up_cell (hi : i1 = i - s := by with_reducible assumption) (hs : s = 1 := by with_reducible assumption) (h₁ : 1 ≤ i := by with_reducible assumption)
    (h₂ : i < n := by with_reducible assumption) : 0 ≤ i1 ∧ i1 < n - 1 := by omega

theorem down_cell (hi : i1 = i - s := by with_reducible assumption) (hs : s = 0 := by with_reducible assumption)
    (h₁ : i ≤ n - 2 := by with_reducible assumption) (h₂ : -1 < i := by with_reducible assumption) : 0 ≤ i1 ∧ i1 < n - 1 := by omega

theorem up_cellBelow (h₁ : 1 ≤ i := by with_reducible assumption) (h₂ : i < n := by with_reducible assumption) :
    0 ≤ max (i - 1) 0 ∧ max (i - 1) 0 < n - 1 := by omega

theorem down_cellBelow (h₀ : 2 ≤ n := by with_reducible assumption) (h₁ : i ≤ n - 2 := by with_reducible assumption) :
    0 ≤ max (i - 1) 0 ∧ max (i - 1) 0 < n - 1 := by omega

theorem up_cellAbove (h₀ : 2 ≤ n := by with_reducible assumption) (h₁ : 1 ≤ i := by with_reducible assumption) :
    0 ≤ min i (n - 2) ∧ min i (n - 2) < n - 1 := by omega

theorem down_cellAbove (h₀ : 2 ≤ n := by with_reducible assumption) (h₂ : -1 < i := by with_reducible assumption) :
    0 ≤ min i (n - 2) ∧ min i (n - 2) < n - 1 := by omega

/-! ### `fteikNd`: the source cell `si = min(int(sa), nc - 1)` of `nc` cells, `0 ≤ int(sa) ≤ nc` by the domain check -/

theorem srcCell (hs : i = min ia (n - 1) := by with_reducible assumption) (h₀ : 1 ≤ n := by with_reducible assumption)
    (h₁ : 0 ≤ ia := by with_reducible assumption) : 0 ≤ i ∧ i < n := by omega

theorem srcCell_node (hs : i = min ia (n - 1) := by with_reducible assumption) (h₀ : 1 ≤ n := by with_reducible assumption)
    (h₁ : 0 ≤ ia := by with_reducible assumption) : 0 ≤ i ∧ i < n + 1 := by omega

theorem srcCell_succ (hs : i = min ia (n - 1) := by with_reducible assumption) (h₀ : 1 ≤ n := by with_reducible assumption)
    (h₁ : 0 ≤ ia := by with_reducible assumption) : 0 ≤ i + 1 ∧ i + 1 < n + 1 := by omega

/-! ### interpolators: `i1 = searchsorted(x, xq) - 1` lies in `[0, n]` after the inside test, `x` has `n + 1 ≥ 2` nodes -/

theorem node (h₁ : 0 ≤ i := by with_reducible assumption) (h₂ : i ≤ n := by with_reducible assumption) : 0 ≤ i ∧ i < n + 1 := by omega

theorem first (h : 1 ≤ n := by with_reducible assumption) : 0 ≤ 0 ∧ 0 < n + 1 := by omega

/-- `x[-1]`: a negative subscript asks that the axis (`n + 1` nodes) has that many nodes -/
theorem last (h : 1 ≤ n := by with_reducible assumption) : 1 ≤ n + 1 := by omega

/-- `x[-2]` -/
theorem lastButOne (h : 1 ≤ n := by with_reducible assumption) : 2 ≤ n + 1 := by omega

/-! ### ray tracers: the cell index `i` of a point of the hull lies in `[0, n - 1]`, an axis has `n ≥ 2` nodes -/

theorem cell (h₁ : 0 ≤ i := by with_reducible assumption) (h₂ : i ≤ n - 1 := by with_reducible assumption) : 0 ≤ i ∧ i < n := by omega

theorem cell_below (h₁ : 0 ≤ i := by with_reducible assumption) (h₂ : i ≤ n - 1 := by with_reducible assumption) :
    0 ≤ max (i - 1) 0 ∧ max (i - 1) 0 < n := by omega

theorem cell_above (h₀ : 2 ≤ n := by with_reducible assumption) (h₁ : 0 ≤ i := by with_reducible assumption) :
    0 ≤ min (i + 1) (n - 1) ∧ min (i + 1) (n - 1) < n := by omega

theorem axis_first (h₀ : 2 ≤ n := by with_reducible assumption) : 0 ≤ 0 ∧ 0 < n := by omega

theorem axis_last (h₀ : 2 ≤ n := by with_reducible assumption) : 1 ≤ n := by omega

end Fteik.Idx
