import FteikVerif.Generated.KInterp
import FteikVerif.Proofs.GenLemmas
/-!
As `GenEquivSolver2.lean`, for `_interp2d.py`, `_interp3d.py` (`Generated/KInterp.lean`).

The source enumerates the `2^d` boundary classes; the model states the per-axis rule.  The two
agree for every non-empty axis/value array (the source reads `x[0]`, `np.shape(v)`; an empty
array is not a grid).

The class of the query is decided first (`cases` on the `edge` flag of each axis) and the definitions are unfolded
afterwards, once per class, so that the `if` chain of the source collapses to the one tuple of that class.
`etaStruct := .none` keeps `simp` from turning `let (v11, …) := if …` into projections of the still undecided chain
(one copy per use of a component) before it has decided it; `bne` is unfolded because the source's tests are `!=`. -/
namespace Fteik

variable {α : Type} [Scalar α]

theorem gen_interp2d (x y : Array α) (v : Grid2 α) (xq yq fval : α)
    (hx : 0 < x.size) (hy : 0 < y.size) (hv : 0 < v.size) (hv0 : 0 < (v.getD 0 #[]).size) :
    Gen.I2.interp2d x y v xq yq fval = interp2d x y v xq yq fval := by
  cases hin : inside x xq && inside y yq
  · unfold Gen.I2.interp2d interp2d
    exact (if_pos (congrArg not hin)).trans (if_pos (congrArg not hin)).symm
  obtain ⟨h1, h2⟩ := Bool.and_eq_true_iff.mp hin
  obtain ⟨a1, a2, a3⟩ := axis_int x v.size xq hx hv h1
  obtain ⟨b1, b2, b3⟩ := axis_int y (v.getD 0 #[]).size yq hy hv0 h2
  unfold inside at h1 h2
  cases e1 : (axisCell x (v.size - 1) xq).edge <;> cases e2 : (axisCell y ((v.getD 0 #[]).size - 1) yq).edge <;>
    simp (config := {etaStruct := .none}) only [Gen.I2.interp2d, interp2d, inside, h1, h2, e1, e2, a1, a2, a3, b1, b2, b3,
      axisCell_x1, axisCell_x2, bne, Bool.not_true, Bool.not_false, Bool.and_true, Bool.and_false, Bool.and_self,
      Bool.or_true, Bool.or_false, Bool.or_self, Bool.false_eq_true, ↓reduceIte]

theorem gen_interp3d (x y z : Array α) (v : Grid3 α) (xq yq zq fval : α)
    (hx : 0 < x.size) (hy : 0 < y.size) (hz : 0 < z.size) (hv : 0 < v.size)
    (hv0 : 0 < (v.getD 0 #[]).size) (hv00 : 0 < ((v.getD 0 #[]).getD 0 #[]).size) :
    Gen.I3.interp3d x y z v xq yq zq fval = interp3d x y z v xq yq zq fval := by
  cases hin : inside x xq && inside y yq && inside z zq
  · unfold Gen.I3.interp3d interp3d
    exact (if_pos (congrArg not hin)).trans (if_pos (congrArg not hin)).symm
  obtain ⟨h12, h3⟩ := Bool.and_eq_true_iff.mp hin
  obtain ⟨h1, h2⟩ := Bool.and_eq_true_iff.mp h12
  obtain ⟨a1, a2, a3⟩ := axis_int x v.size xq hx hv h1
  obtain ⟨b1, b2, b3⟩ := axis_int y (v.getD 0 #[]).size yq hy hv0 h2
  obtain ⟨c1, c2, c3⟩ := axis_int z ((v.getD 0 #[]).getD 0 #[]).size zq hz hv00 h3
  unfold inside at h1 h2 h3
  cases e1 : (axisCell x (v.size - 1) xq).edge <;> cases e2 : (axisCell y ((v.getD 0 #[]).size - 1) yq).edge <;>
    cases e3 : (axisCell z (((v.getD 0 #[]).getD 0 #[]).size - 1) zq).edge <;>
    simp (config := {etaStruct := .none}) only [Gen.I3.interp3d, interp3d, inside, h1, h2, h3, e1, e2, e3, a1, a2, a3,
      b1, b2, b3, c1, c2, c3, axisCell_x1, axisCell_x2, bne, Bool.not_true, Bool.not_false, Bool.and_true,
      Bool.and_false, Bool.and_self, Bool.or_true, Bool.or_false, Bool.or_self, Bool.false_eq_true, ↓reduceIte]

end Fteik
