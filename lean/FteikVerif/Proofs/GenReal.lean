import FteikVerif.Proofs.RealScalar
import FteikVerif.Proofs.GenLemmas
namespace Fteik

theorem farLaw_real : FarLaw ℝ := by
  intro i z
  simp only [Scalar.gt, Scalar.lt, real_abs, real_ofInt, decide_eq_decide]
  -- back in ℤ, where `|i - z|` is `natAbs`
  rw [← Int.cast_sub, ← Int.cast_abs, Int.cast_lt, Int.abs_eq_natAbs]
  omega

end Fteik
