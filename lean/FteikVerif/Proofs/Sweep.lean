import FteikVerif.Model.Fteik2D
import FteikVerif.Model.Fteik3D
import FteikVerif.Proofs.GridLemmas
/-!
# Structural facts about the sweeps, parametric in the scalar type

Everything here holds for *any* `Scalar α` — in particular for the IEEE-double instance the
driver executes — because it only uses the shape of the program: the single store into `tt` of a
node update is `pymin(old, …)`, and the `grad` flag only guards stores into the sign grid.
The order facts the parametric theorems need are explicit hypotheses, defined here (`LtTrans` for everything about
"never raised"; `LtIrrefl` and `LtNegTrans` enter with the fixed points of C04).

The traveltime grid evolves by an operator of its own (`ttUpdate`, `sweepTT`; `ttUpdate3`, `sweepTT3` in 3-D) of
which the run on solver states is a lift: monotonicity (C07), fixed points (C04), convergence and
independence of `grad` (C11) are all statements about that operator.
-/
namespace Fteik
open Scalar

variable {α : Type} [Scalar α]

/-- the bit-level meaning of *non-increasing* -/
def NonInc (a b : α) : Prop := a = b ∨ lt a b = true

theorem NonInc.refl (a : α) : NonInc a a := Or.inl rfl

/-- holds of IEEE `<` and of `<` on ℝ -/
def LtTrans (α : Type) [Scalar α] : Prop :=
  ∀ a b c : α, lt a b = true → lt b c = true → lt a c = true

/-- holds of IEEE `<` and of `<` on ℝ -/
def LtIrrefl (α : Type) [Scalar α] : Prop := ∀ a : α, lt a a = false

/-- true of `<` on ℝ and of IEEE `<` on non-NaN values (a strict weak order), false with NaN -/
def LtNegTrans (α : Type) [Scalar α] : Prop :=
  ∀ a b c : α, lt a b = false → lt b c = false → lt a c = false

theorem NonInc.trans (h : LtTrans α) {a b c : α} (h1 : NonInc a b) (h2 : NonInc b c) : NonInc a c := by
  rcases h1 with rfl | h1
  · exact h2
  · rcases h2 with rfl | h2
    · exact Or.inr h1
    · exact Or.inr (h a b c h1 h2)

/-- Python's `min(a, b)`: `b` if `b < a`, else `a` (so `a` when the two do not compare) -/
theorem pymin2_cases (a b : α) : lt b a = true ∧ pymin2 a b = b ∨ lt b a = false ∧ pymin2 a b = a := by
  unfold pymin2
  cases lt b a <;> simp

theorem pymin2_nonInc_left (a b : α) : NonInc (pymin2 a b) a := by
  rcases pymin2_cases a b with ⟨h, e⟩ | ⟨-, e⟩ <;> rw [e]
  · exact .inr h
  · exact .inl rfl

theorem pymin3_nonInc_left (h : LtTrans α) {a b c : α} : NonInc (pymin3 a b c) a :=
  NonInc.trans h (pymin2_nonInc_left _ _) (pymin2_nonInc_left _ _)

theorem pymin4_nonInc_left (h : LtTrans α) {a b c d : α} : NonInc (pymin4 a b c d) a :=
  NonInc.trans h (pymin2_nonInc_left _ _) (pymin3_nonInc_left h)

def Grid2.NonInc (g' g : Grid2 α) : Prop := ∀ i j, Fteik.NonInc (g'.get zero i j) (g.get zero i j)
def Grid3.NonInc (g' g : Grid3 α) : Prop :=
  ∀ i j k, Fteik.NonInc (g'.get zero i j k) (g.get zero i j k)

theorem Grid2.NonInc.refl (g : Grid2 α) : Grid2.NonInc g g := fun _ _ => Fteik.NonInc.refl _
theorem Grid3.NonInc.refl (g : Grid3 α) : Grid3.NonInc g g := fun _ _ _ => Fteik.NonInc.refl _

theorem Grid2.NonInc.trans (h : LtTrans α) {a b c : Grid2 α} (h1 : Grid2.NonInc a b)
    (h2 : Grid2.NonInc b c) : Grid2.NonInc a c := fun i j => (h1 i j).trans h (h2 i j)
theorem Grid3.NonInc.trans (h : LtTrans α) {a b c : Grid3 α} (h1 : Grid3.NonInc a b)
    (h2 : Grid3.NonInc b c) : Grid3.NonInc a c := fun i j k => (h1 i j k).trans h (h2 i j k)

theorem NonInc.ite {c : Prop} [Decidable c] {v o : α} (h : c → NonInc v o) : NonInc (if c then v else o) o := by
  split
  · exact h ‹c›
  · exact NonInc.refl o

theorem Grid2.set_nonInc {g : Grid2 α} {i j : Nat} {v : α} (h : Fteik.NonInc v (g.get zero i j)) :
    Grid2.NonInc (g.set i j v) g := fun i' j' => by
  rw [Grid2.get_set]
  exact NonInc.ite fun hc => by obtain ⟨rfl, rfl, -⟩ := hc; exact h

theorem Grid3.set_nonInc {g : Grid3 α} {i j k : Nat} {v : α} (h : Fteik.NonInc v (g.get zero i j k)) :
    Grid3.NonInc (g.set i j k v) g := fun i' j' k' => by
  rw [Grid3.get_set]
  exact NonInc.ite fun hc => by obtain ⟨rfl, rfl, rfl, -⟩ := hc; exact h

/-- `range(a, b)` and, below, `range(a - 1, -1, -1)`: the two loop headers of the model; `rangeUp n` is the first from
`1` and `rangeDown n` the second from `n - 1` -/
theorem mem_rangeFromTo (a b i : Nat) : i ∈ rangeFromTo a b ↔ a ≤ i ∧ i < b := by
  unfold rangeFromTo
  simp only [List.mem_map, List.mem_range]
  constructor
  · rintro ⟨k, hk, rfl⟩; exact ⟨Nat.le_add_left a k, Nat.add_lt_of_lt_sub hk⟩
  · rintro ⟨h1, h2⟩; exact ⟨i - a, Nat.sub_lt_sub_right h1 h2, Nat.sub_add_cancel h1⟩

theorem mem_rangeDownFrom (a i : Nat) : i ∈ rangeDownFrom a ↔ i < a := by
  unfold rangeDownFrom
  rw [List.mem_reverse, List.mem_range]

theorem mem_rangeUp (n i : Nat) : i ∈ rangeUp n ↔ 1 ≤ i ∧ i < n := mem_rangeFromTo 1 n i

theorem mem_rangeDown (n i : Nat) : i ∈ rangeDown n ↔ i + 1 < n :=
  (mem_rangeDownFrom (n - 1) i).trans Nat.lt_sub_iff_add_lt

theorem lt_of_mem_rangeUp {n i : Nat} (h : i ∈ rangeUp n) : i < n := ((mem_rangeUp n i).mp h).2
theorem lt_of_mem_rangeDown {n i : Nat} (h : i ∈ rangeDown n) : i < n := Nat.lt_of_succ_lt ((mem_rangeDown n i).mp h)

theorem exists_rangeDir {n i : Nat} (hn : 2 ≤ n) (hi : i < n) : ∃ up, i ∈ rangeDir up n := by
  rcases Nat.eq_zero_or_pos i with rfl | h0
  · exact ⟨false, (mem_rangeDown ..).mpr hn⟩
  · exact ⟨true, (mem_rangeUp ..).mpr ⟨h0, hi⟩⟩

theorem foldl_below {σ ι : Type} (R : σ → σ → Prop) (refl : ∀ s, R s s)
    (trans : ∀ {a b c}, R a b → R b c → R a c) (f : σ → ι → σ) (hf : ∀ s x, R (f s x) s)
    (l : List ι) (s : σ) : R (l.foldl f s) s :=
  List.foldlRecOn (motive := (R · s)) l f (refl s) fun b hb a _ => trans (hf b a) hb

theorem iter_succ' {β : Type} (f : β → β) (n : Nat) (x : β) : iter f (n + 1) x = f (iter f n x) := by
  induction n generalizing x with
  | zero => rfl
  | succ n ih => exact ih (f x)

theorem iter_add_fixed {β : Type} (f : β → β) (x : β) (k : Nat) (h : f (iter f k x) = iter f k x) (m : Nat) :
    iter f (k + m) x = iter f k x := by
  induction m with
  | zero => rfl
  | succ m ih => rw [← Nat.add_assoc, iter_succ', ih, h]

theorem iter_fixed {β : Type} (f : β → β) (x : β) (hx : f x = x) (n : Nat) : iter f n x = x := by
  have := iter_add_fixed f x 0 hx n
  rwa [Nat.zero_add] at this

theorem iter_sim {σ τ : Type} (R : σ → τ → Prop) {f : σ → σ} {g : τ → τ}
    (h : ∀ a b, R a b → R (f a) (g b)) (n : Nat) {a : σ} {b : τ} (hab : R a b) :
    R (iter f n a) (iter g n b) := by
  induction n generalizing a b with
  | zero => exact hab
  | succ n ih => exact ih (h a b hab)

def ttUpdate (p : Par2 α) (slow : Grid2 α) (tt : Grid2 α) (x : Nat × Nat × Dir2) : Grid2 α :=
  tt.set x.1 x.2.1 (pymin3 (tt.get zero x.1 x.2.1)
    (pymin2 (candidates2 p slow tt x.1 x.2.1 x.2.2).1 (candidates2 p slow tt x.1 x.2.1 x.2.2).2.1)
    (candidates2 p slow tt x.1 x.2.1 x.2.2).2.2)

def sweepTT (p : Par2 α) (slow : Grid2 α) (tt : Grid2 α) : Grid2 α := (schedule2 p.nz p.nx).foldl (ttUpdate p slow) tt

theorem nodeUpdate2_tt (p : Par2 α) (slow : Grid2 α) (grad : Bool) (s : St2 α) (i j : Nat) (d : Dir2) :
    (nodeUpdate2 p slow grad s i j d).tt = ttUpdate p slow s.tt (i, j, d) := by
  simp only [nodeUpdate2, ttUpdate]

theorem sweep2d_tt_eq_sweepTT (p : Par2 α) (slow : Grid2 α) (grad : Bool) (s : St2 α) :
    (sweep2d p slow grad s).tt = sweepTT p slow s.tt :=
  -- `foldl_hom` is oriented from the operator to the run, step and conclusion alike
  (List.foldl_hom St2.tt fun s x => (nodeUpdate2_tt p slow grad s x.1 x.2.1 x.2.2).symm).symm

theorem iter_sweep2d_tt (p : Par2 α) (slow : Grid2 α) (grad : Bool) (n : Nat) (s : St2 α) :
    (iter (sweep2d p slow grad) n s).tt = iter (sweepTT p slow) n s.tt :=
  iter_sim (fun (s : St2 α) g => s.tt = g) (fun s _ h => h ▸ sweep2d_tt_eq_sweepTT p slow grad s) n rfl

theorem ttUpdate_nonInc (ht : LtTrans α) (p : Par2 α) (slow : Grid2 α) (tt : Grid2 α) (x : Nat × Nat × Dir2) :
    Grid2.NonInc (ttUpdate p slow tt x) tt :=
  Grid2.set_nonInc (pymin3_nonInc_left ht)

theorem foldl_ttUpdate_nonInc (ht : LtTrans α) (p : Par2 α) (slow : Grid2 α) (l : List (Nat × Nat × Dir2)) (tt : Grid2 α) :
    Grid2.NonInc (l.foldl (ttUpdate p slow) tt) tt :=
  foldl_below _ Grid2.NonInc.refl (Grid2.NonInc.trans ht) _ (ttUpdate_nonInc ht p slow) l tt

theorem foldl_ttUpdate_shape (p : Par2 α) (slow : Grid2 α) (l : List (Nat × Nat × Dir2)) (tt : Grid2 α) :
    Grid2.SameShape (l.foldl (ttUpdate p slow) tt) tt :=
  foldl_below Grid2.SameShape Grid2.SameShape.refl Grid2.SameShape.trans (ttUpdate p slow)
    (fun _ _ => ⟨Grid2.size_set .., fun _ => Grid2.row_set ..⟩) l tt

def ttUpdate3 (p : Par3 α) (slow : Grid3 α) (tt : Grid3 α) (x : Nat × Nat × Nat × Dir3) : Grid3 α :=
  let c := candidates3 p slow tt x.1 x.2.1 x.2.2.1 x.2.2.2
  tt.set x.1 x.2.1 x.2.2.1 (pymin4 (tt.get zero x.1 x.2.1 x.2.2.1) (pymin3 c.1 c.2.1 c.2.2.1)
    (pymin3 c.2.2.2.1 c.2.2.2.2.1 c.2.2.2.2.2.1) c.2.2.2.2.2.2)

def sweepTT3 (p : Par3 α) (slow : Grid3 α) (tt : Grid3 α) : Grid3 α :=
  (schedule3 p.nz p.nx p.ny).foldl (ttUpdate3 p slow) tt

theorem nodeUpdate3_tt (p : Par3 α) (slow : Grid3 α) (grad : Bool) (s : St3 α) (i j k : Nat) (d : Dir3) :
    (nodeUpdate3 p slow grad s i j k d).tt = ttUpdate3 p slow s.tt (i, j, k, d) := by
  simp only [nodeUpdate3, ttUpdate3]

theorem sweep3d_tt_eq_sweepTT3 (p : Par3 α) (slow : Grid3 α) (grad : Bool) (s : St3 α) :
    (sweep3d p slow grad s).tt = sweepTT3 p slow s.tt :=
  (List.foldl_hom St3.tt fun s x => (nodeUpdate3_tt p slow grad s x.1 x.2.1 x.2.2.1 x.2.2.2).symm).symm

theorem iter_sweep3d_tt (p : Par3 α) (slow : Grid3 α) (grad : Bool) (n : Nat) (s : St3 α) :
    (iter (sweep3d p slow grad) n s).tt = iter (sweepTT3 p slow) n s.tt :=
  iter_sim (fun (s : St3 α) g => s.tt = g) (fun s _ h => h ▸ sweep3d_tt_eq_sweepTT3 p slow grad s) n rfl

theorem sweepTT3_nonInc (h : LtTrans α) (p : Par3 α) (slow : Grid3 α) (tt : Grid3 α) :
    Grid3.NonInc (sweepTT3 p slow tt) tt :=
  foldl_below _ Grid3.NonInc.refl (Grid3.NonInc.trans h) _
    (fun _ _ => Grid3.set_nonInc (pymin4_nonInc_left h)) _ tt

theorem sweepTT3_sameShape (p : Par3 α) (slow : Grid3 α) (tt : Grid3 α) : Grid3.SameShape (sweepTT3 p slow tt) tt :=
  foldl_below Grid3.SameShape Grid3.SameShape.refl Grid3.SameShape.trans (ttUpdate3 p slow)
    (fun _ _ => ⟨Grid3.size_set .., fun _ => Grid3.row_set .., fun _ _ => Grid3.col_set ..⟩) _ tt

end Fteik
