import FteikVerif.Generated.KSweep2
import FteikVerif.Proofs.GenLemmas
/-!
The loop-free kernels of `_fteik2d.py` and `_common.py` as `harness/translate.py` rewrites them from `/repo`'s working
tree on every run (`Generated/KSweep2.lean`, `KCommon.lean`) compute exactly what the model's kernels compute, for every
scalar type: a semantic edit of a kernel in `/repo` changes the generated definition and its theorem no longer checks.

`gen_sweep2` (and `gen_sweep3`): unfolded, the translated `sweep` and `nodeUpdate` differ in four things only - integer
subscripts against naturals (`toNat_*`), the value just stored read back where the model keeps it (`get_set_self`:
why the node must be a valid subscript), two component stores into the sign pair against one store of the pair
(`set_snd`), and `np.abs(i - zsi) > epsin` on floats against the integer test (`FarLaw`).
-/
namespace Fteik
open Scalar

variable {α : Type} [Scalar α]

theorem gen_norm2d (x y : α) : Gen.Common.norm2d x y = norm2d x y := rfl
theorem gen_norm3d (x y z : α) : Gen.Common.norm3d x y z = norm3d x y z := rfl

theorem gen_tAna (i j : Int) (dz dx zsa xsa vz : α) :
    Gen.F2.t_ana i j dz dx zsa xsa vz = tAna i j dz dx zsa xsa vz := rfl

theorem gen_tAnad (i j : Int) (dz dx zsa xsa vz : α) :
    Gen.F2.t_anad i j dz dx zsa xsa vz = tAnad i j dz dx zsa xsa vz := by
  cases h : gt (tAna i j dz dx zsa xsa vz) zero <;>
    simp only [Gen.F2.t_anad, tAnad, gen_tAna, h, ↓reduceIte, Bool.false_eq_true]

theorem gen_delta (t1 tauv taue tauev t0c tzc txc dzi dxi dz2i dx2i vz vref : α) (sz sx : Int) :
    Gen.F2.delta t1 tauv taue tauev t0c tzc txc dzi dxi dz2i dx2i vz vref sz sx
      = delta t1 tauv taue tauev t0c tzc txc dzi dxi dz2i dx2i vz vref sz sx := rfl

theorem farFromSource_eq (hf : FarLaw α) (p : Par2 α) (i j : Nat) :
    (gt (abs ((ofInt (i : Int) : α) - ofInt p.zsi)) (ofInt 5)
      || gt (abs ((ofInt (j : Int) : α) - ofInt p.xsi)) (ofInt 5)) = farFromSource p i j := by
  unfold farFromSource
  rw [hf, hf]
  rfl

theorem gen_sweep2 (hf : FarLaw α) (p : Par2 α) (slow : Grid2 α) (grad : Bool) (s : St2 α)
    (i j : Nat) (d : Dir2) (hin : s.tt.InB i j) :
    Gen.F2.sweep p.big s.tt s.sgn slow (p.dz, p.dx, p.dzi, p.dxi, p.dz2i, p.dx2i)
        (ofInt p.zsi) (ofInt p.xsi) p.zsa p.xsa p.vzero i j d.sgnvz d.sgnvx d.sgntz d.sgntx
        p.nz p.nx grad
      = ((nodeUpdate2 p slow grad s i j d).tt, (nodeUpdate2 p slow grad s i j d).sgn) := by
  unfold Gen.F2.sweep nodeUpdate2 candidates2 planeWave2 spherical2 edgeSlowZ edgeSlowX nb
  simp only [gen_tAna, gen_tAnad, gen_delta, toNat_max_pred, toNat_min_cells, Int.toNat_natCast,
    Grid2.get_set_self hin, Grid2.set_snd, farFromSource_eq hf, Int.ofNat_eq_natCast]

end Fteik
