import FteikVerif.Model.Scalar
import FteikVerif.Model.Py
import FteikVerif.Model.Fteik2D
import FteikVerif.Model.Fteik3D
import FteikVerif.Model.Interp
import FteikVerif.Model.Ray
import FteikVerif.Model.Par
import FteikVerif.Model.Api
import FteikVerif.Model.Mesh
import FteikVerif.Audit
import FteikVerif.Generated.Shape
import FteikVerif.Generated.Effects
import FteikVerif.Generated.ApiFacts
import FteikVerif.Generated.Sites
import FteikVerif.Generated.KCommon
import FteikVerif.Generated.KSweep2
import FteikVerif.Generated.KSweep3
import FteikVerif.Generated.KSolver2
import FteikVerif.Generated.KSolver3
import FteikVerif.Generated.KInterp
import FteikVerif.Generated.KVInterp
import FteikVerif.Generated.KList2
import FteikVerif.Generated.KList3
import FteikVerif.Generated.KListInterp
import FteikVerif.Generated.KListVInterp
import FteikVerif.Proofs.GridLemmas
import FteikVerif.Proofs.IndexLemmas
import FteikVerif.Proofs.Sweep
import FteikVerif.Proofs.FixedPoint
import FteikVerif.Proofs.GradIndep
import FteikVerif.Proofs.Stabilise
import FteikVerif.Proofs.FloatOrder
import FteikVerif.Proofs.RealScalar
import FteikVerif.Proofs.Physics
import FteikVerif.Proofs.Homog
import FteikVerif.Proofs.InterpLemmas
import FteikVerif.Proofs.GenLemmas
import FteikVerif.Proofs.GenEquivSolver2
import FteikVerif.Proofs.GenEquivSolver3
import FteikVerif.Proofs.GenStructure
import FteikVerif.Proofs.GenEquivLoops2
import FteikVerif.Proofs.GenEquivLoops3
import FteikVerif.Proofs.GenSolver
import FteikVerif.Proofs.GenEquivWhole2
import FteikVerif.Proofs.GenEquivWhole3
import FteikVerif.Proofs.GenReal
import FteikVerif.Proofs.GenWholeReal
import FteikVerif.Proofs.GenEquivInterp
import FteikVerif.Proofs.GenEquivVInterp
import FteikVerif.Proofs.GenList
import FteikVerif.Proofs.GenListInterp
import FteikVerif.Proofs.GenListVInterp
import FteikVerif.Props.C01
import FteikVerif.Props.C02
import FteikVerif.Props.C03
import FteikVerif.Props.C04
import FteikVerif.Props.C05
import FteikVerif.Props.C06
import FteikVerif.Props.C07
import FteikVerif.Props.C08
import FteikVerif.Props.C09
import FteikVerif.Props.C10
import FteikVerif.Props.C11
import FteikVerif.Props.C12
import FteikVerif.Props.C13
import FteikVerif.Props.C14
import FteikVerif.Props.C15
import FteikVerif.Props.C16
import FteikVerif.Props.C17
import FteikVerif.Props.C18
import FteikVerif.Props.C19
import FteikVerif.Props.C20
import FteikVerif.Props.SourceSolver
import FteikVerif.Props.SourceC07
import FteikVerif.Props.SourceWhole2
import FteikVerif.Props.SourceWhole3
import FteikVerif.Props.SourceInterp
import FteikVerif.Props.SourceVInterp
